import GFS.Base.Bytes
import GFS.Base.BEqUInt8
/-
  Association list keyed by byte strings, kept in ascending key order by `insert`.
  It models Go maps (order unobservable), goskiplist string maps and bolt buckets (ordered).
  Lookup laws need no invariant; order theorems use `Sorted`.
-/
namespace GFS

abbrev SMap (α : Type) := List (Bytes × α)

namespace SMap
variable {α : Type}

def find (m : SMap α) (k : Bytes) : Option α :=
  match m with
  | [] => none
  | (k', v) :: rest => if k' == k then some v else find rest k

/-- ordered insert, replacing the value of an existing key -/
def insert (m : SMap α) (k : Bytes) (v : α) : SMap α :=
  match m with
  | [] => [(k, v)]
  | (k', v') :: rest =>
    if k' == k then (k, v) :: rest
    else if Bytes.lt k k' then (k, v) :: (k', v') :: rest
    else (k', v') :: insert rest k v

def erase (m : SMap α) (k : Bytes) : SMap α := m.filter (fun p => !(p.1 == k))

def keys (m : SMap α) : List Bytes := m.map (·.1)

def contains (m : SMap α) (k : Bytes) : Bool := (find m k).isSome

@[simp] theorem find_nil (k : Bytes) : find ([] : SMap α) k = none := rfl

theorem find_cons (p : Bytes × α) (m : SMap α) (k : Bytes) :
    find (p :: m) k = if p.1 = k then some p.2 else find m k := by
  simp [find]

theorem find_eq_find? (m : SMap α) (k : Bytes) : find m k = (m.find? (·.1 == k)).map (·.2) := by
  induction m with
  | nil => rfl
  | cons p rest ih =>
    rw [find, List.find?_cons, ih]
    cases p.1 == k <;> rfl

theorem find_insert (m : SMap α) (k j : Bytes) (v : α) :
    find (insert m k v) j = if k = j then some v else find m j := by
  fun_induction insert m k v with
  | case1 => rw [find_cons]
  | case2 k' v' rest h => cases beq_iff_eq.mp h; simp only [find_cons]; split <;> rfl
  | case3 k' v' rest h1 h2 => rw [find_cons]
  | case4 k' v' rest h1 h2 ih =>
    rw [find_cons, find_cons, ih]
    by_cases e : k = j
    · subst e; simp only [if_neg (mt beq_iff_eq.mpr h1)]
    · simp only [if_neg e]

theorem find_insert_self (m : SMap α) (k : Bytes) (v : α) : find (insert m k v) k = some v := by
  simp [find_insert]

theorem find_insert_ne {m : SMap α} {k j : Bytes} {v : α} (h : k ≠ j) :
    find (insert m k v) j = find m j := by
  simp [find_insert, h]

theorem find_filter (q : Bytes → Bool) (m : SMap α) (j : Bytes) :
    find (m.filter (fun p => q p.1)) j = if q j then find m j else none := by
  induction m with
  | nil => simp
  | cons p rest ih =>
    obtain ⟨k', v'⟩ := p
    by_cases hk : k' = j
    · subst hk; cases hq : q k' <;> simp [hq, find_cons, ih]
    · cases hq : q k' <;> simp [hq, find_cons, ih, hk]

theorem find_erase (m : SMap α) (k j : Bytes) :
    find (erase m k) j = if k = j then none else find m j := by
  rw [erase, find_filter (fun x => !(x == k))]
  by_cases h : j = k
  · simp [h]
  · simp [h, Ne.symm h]

theorem find_erase_self (m : SMap α) (k : Bytes) : find (erase m k) k = none := by
  simp [find_erase]

theorem find_erase_ne {m : SMap α} {k j : Bytes} (h : k ≠ j) : find (erase m k) j = find m j := by
  simp [find_erase, h]

theorem insert_insert (m : SMap α) (k : Bytes) (v v' : α) : insert (insert m k v) k v' = insert m k v' := by
  fun_induction insert m k v with
  | case1 => simp [insert]
  | case2 k' w rest h => simp [insert, h]
  | case3 k' w rest h1 h2 => simp [insert, h1, h2]
  | case4 k' w rest h1 h2 ih => simp [insert, h1, h2, ih]

theorem forall_find_insert {P : Bytes → α → Prop} {m : SMap α} {k : Bytes} {v : α}
    (h : ∀ j w, find m j = some w → P j w) (hv : P k v) : ∀ j w, find (insert m k v) j = some w → P j w := by
  intro j w hj
  rw [find_insert] at hj
  split at hj
  · next e => cases e; cases hj; exact hv
  · exact h j w hj

end SMap
end GFS
