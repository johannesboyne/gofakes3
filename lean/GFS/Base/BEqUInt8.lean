/-
  Shortcut instances.  Core finds `LawfulBEq UInt8` and `ReflBEq UInt8` only after a long search through its order
  classes (about 120k heartbeats whenever a proof first needs `beq_iff_eq` or `beq_self_eq_true` on byte strings,
  keys or paths).  Imported by the proof-side modules at the bottom of the import graph.
-/
instance : LawfulBEq UInt8 := instLawfulBEq
instance : ReflBEq UInt8 := LawfulBEq.toReflBEq
