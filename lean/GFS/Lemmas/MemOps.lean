import GFS.Model.MemList
import GFS.Lemmas.SMapExt
import GFS.Lemmas.Fold
/-
  The s3mem model (Model/Mem) in normal form.  Every mutation of a bucket is `storeObj` of an
  object computed from the old one (`Obj.push`, `Obj.dropCurrent`, `Obj.rmVer`); every mutation of
  the store rewrites one bucket by such a step and never lowers the counter.  A predicate on
  buckets kept by the three bucket steps (`BucketInv`) is therefore kept by every operation of
  the store, multi-deletes included (`BucketInv.createBucket` … `BucketInv.deleteMultiVersions`;
  at the end `C13I.step_all`, for the operations as one type).
  The answers: no operation of the store that does not dereference a current version panics.
-/
namespace GFS.Model
open GFS.SMap

theorem insertVer_mem (vs : List Ver) (v : Ver) : ∀ w ∈ insertVer vs v, w = v ∨ w ∈ vs := by
  induction vs with
  | nil => intro w hw; exact .inl (List.mem_singleton.mp hw)
  | cons x xs ih =>
    intro w hw
    unfold insertVer at hw
    split at hw
    · exact (List.mem_cons.mp hw).imp_right (List.mem_cons_of_mem _)
    · split at hw
      · exact List.mem_cons.mp hw
      · rcases List.mem_cons.mp hw with h | h
        · exact .inr (h ▸ List.mem_cons_self ..)
        · exact (ih w h).imp_right (List.mem_cons_of_mem _)

/-- archiving a version above all archived ones appends it -/
theorem insertVer_append {vs : List Ver} {d : Ver} (h : ∀ v ∈ vs, v.id < d.id) : insertVer vs d = vs ++ [d] := by
  induction vs with
  | nil => rfl
  | cons w ws ih =>
    have hw := h w (List.mem_cons_self ..)
    have h1 : (w.id == d.id) = false := by simp only [beq_eq_false_iff_ne]; omega
    have h2 : ¬ d.id < w.id := by omega
    simp only [insertVer, h1, Bool.false_eq_true, if_false, h2, ih fun v hv => h v (List.mem_cons_of_mem _ hv), List.cons_append]

/-- what `bucket.put` leaves under a key that held `o` -/
def Obj.push (o : Obj) (archive : Bool) (item : Ver) : Obj :=
  ⟨some item, if archive then (match o.data with | some d => insertVer o.versions d | none => o.versions) else o.versions⟩

/-- the current version goes, the newest archived one takes its place -/
def Obj.dropCurrent (o : Obj) : Obj := ({ o with data := none } : Obj).promote

def Obj.rmArchived (o : Obj) (vid : Nat) : Obj × Bool × Option Nat :=
  match o.versions.find? (·.id == vid) with
  | some v => ({ o with versions := o.versions.filter (fun w => !(w.id == vid)) }, v.marker, some vid)
  | none => (o, false, none)

/-- `bucket.rmVersion` on the object it finds -/
def Obj.rmVer (o : Obj) (vid : Nat) : Obj × Bool × Option Nat :=
  match o.data with
  | some d => if d.id == vid then (o.dropCurrent, d.marker, some vid) else o.rmArchived vid
  | none => o.rmArchived vid

theorem Obj.push_all {Q : Ver → Prop} {o : Obj} {item : Ver} {e : Bool}
    (ho : (∀ d, o.data = some d → Q d) ∧ ∀ w ∈ o.versions, Q w) (hi : Q item) :
    (∀ d, (o.push e item).data = some d → Q d) ∧ ∀ w ∈ (o.push e item).versions, Q w := by
  refine ⟨fun d hd => by cases hd; exact hi, fun w hw => ?_⟩
  simp only [Obj.push] at hw
  split at hw
  · split at hw
    · next d hd => exact (insertVer_mem _ _ w hw).elim (fun he => he ▸ ho.1 d hd) (ho.2 w)
    · exact ho.2 w hw
  · exact ho.2 w hw

/-- whether or not an archived version has the id, what is left are the archived versions without it -/
theorem Obj.rmArchived_fst (o : Obj) (vid : Nat) :
    (o.rmArchived vid).1 = { o with versions := o.versions.filter (fun w => !(w.id == vid)) } := by
  unfold Obj.rmArchived
  split
  · rfl
  · next h =>
    rw [List.filter_eq_self.mpr fun w hw => by simpa using List.find?_eq_none.mp h w hw]

/-- the object `rmVersion` leaves: the current version goes if it has the id, else the archived one that has it -/
theorem Obj.rmVer_fst (o : Obj) (vid : Nat) :
    (o.rmVer vid).1 = if o.data.any (·.id == vid) then o.dropCurrent
      else { o with versions := o.versions.filter (fun w => !(w.id == vid)) } := by
  obtain ⟨_ | d, vs⟩ := o
  · exact Obj.rmArchived_fst ..
  · simp only [Obj.rmVer, Option.any_some]
    split
    · rfl
    · exact Obj.rmArchived_fst ..

/-- nothing of the object is left: `storeObj` drops the key -/
def Obj.Gone (o : Obj) : Prop := o.data = none ∧ o.versions = []

theorem Obj.dropCurrent_eq (o : Obj) : o.dropCurrent = ⟨o.versions.getLast?, o.versions.dropLast⟩ := by
  unfold Obj.dropCurrent Obj.promote
  cases h : o.versions.getLast? with
  | none => rw [List.getLast?_eq_none_iff.mp h]; rfl
  | some l => rfl

theorem Obj.dropCurrent_concat (d : Option Ver) (vs : List Ver) (l : Ver) :
    (⟨d, vs ++ [l]⟩ : Obj).dropCurrent = ⟨some l, vs⟩ := by
  rw [Obj.dropCurrent_eq, List.getLast?_concat, List.dropLast_concat]

/-- without archived versions nothing is left -/
theorem Obj.dropCurrent_gone {o : Obj} (h : o.dropCurrent.data = none) : o.dropCurrent.Gone := by
  rw [Obj.dropCurrent_eq] at h ⊢
  exact ⟨h, by rw [List.getLast?_eq_none_iff.mp h]; rfl⟩

theorem Obj.dropCurrent_all (o : Obj) : o.dropCurrent.versions ++ o.dropCurrent.data.toList = o.versions := by
  rw [Obj.dropCurrent_eq]
  cases h : o.versions.getLast? with
  | none => rw [List.getLast?_eq_none_iff.mp h]; rfl
  | some l =>
    obtain ⟨ws, e⟩ := List.getLast?_eq_some_iff.mp h
    rw [e, List.dropLast_concat]; rfl

/-! ### buckets: every step is a `storeObj` -/

namespace Bucket

theorem storeObj_gone {bk : Bucket} {k : Key} {o : Obj} (h : o.Gone) :
    bk.storeObj k o = { bk with objects := erase bk.objects k } := by
  simp [storeObj, h.1, h.2]

theorem storeObj_some {bk : Bucket} {k : Key} {o : Obj} {d : Ver} (h : o.data = some d) :
    bk.storeObj k o = { bk with objects := insert bk.objects k o } := by
  simp [storeObj, h]

@[simp] theorem storeObj_versioning (bk : Bucket) (k : Key) (o : Obj) : (bk.storeObj k o).versioning = bk.versioning := by
  unfold storeObj; split <;> rfl

theorem find_storeObj (bk : Bucket) (k j : Key) (o : Obj) :
    find (bk.storeObj k o).objects j =
      if k = j then (if o.data.isNone && o.versions.isEmpty then none else some o) else find bk.objects j := by
  unfold storeObj; split <;> simp only [find_erase, find_insert]

theorem find_storeObj_ne {bk : Bucket} {k j : Key} {o : Obj} (h : k ≠ j) :
    find (bk.storeObj k o).objects j = find bk.objects j := by
  simp [find_storeObj, h]

theorem mem_storeObj {bk : Bucket} {k : Key} {o : Obj} {q : Key × Obj} (h : q ∈ (bk.storeObj k o).objects) :
    (q = (k, o) ∧ ¬ o.Gone) ∨ q ∈ bk.objects := by
  unfold storeObj at h
  split at h
  · exact .inr (SMapL.mem_erase h)
  · rename_i hc
    refine (SMapL.mem_insert h).imp_left fun e => ⟨e, fun g => hc ?_⟩
    simp [g.1, g.2]

/-- the one lemma behind every "each stored object satisfies `P`" invariant -/
theorem storeObj_all {P : Key × Obj → Prop} {bk : Bucket} {k : Key} {o : Obj}
    (h : ∀ q ∈ bk.objects, P q) (ho : ¬ o.Gone → P (k, o)) : ∀ q ∈ (bk.storeObj k o).objects, P q := by
  intro q hq
  rcases mem_storeObj hq with ⟨rfl, hg⟩ | hq
  · exact ho hg
  · exact h q hq

theorem storeObj_sorted {bk : Bucket} (k : Key) (o : Obj) (h : Sorted bk.objects) : Sorted (bk.storeObj k o).objects := by
  unfold storeObj; split
  · exact sorted_erase h
  · exact sorted_insert h

/-- the object found under a key, `⟨none, []⟩` if there is none -/
abbrev old (bk : Bucket) (k : Key) : Obj := (find bk.objects k).getD ⟨none, []⟩

theorem old_rec {P : Obj → Prop} {bk : Bucket} {k : Key} (h0 : P ⟨none, []⟩) (h : ∀ o, find bk.objects k = some o → P o) :
    P (bk.old k) := by
  unfold old
  cases hf : find bk.objects k with
  | none => exact h0
  | some o => exact h o hf

theorem old_of_find {bk : Bucket} {k : Key} {o : Obj} (h : find bk.objects k = some o) : bk.old k = o := by
  unfold old; rw [h]; rfl

theorem old_versions_nil {bk : Bucket} {k : Key} (h : ∀ o, find bk.objects k = some o → o.versions = []) :
    (bk.old k).versions = [] :=
  old_rec (P := fun o => o.versions = []) rfl h

/-- a bucket as a total map: `old` reads what `storeObj` wrote (`⟨none, []⟩` = no entry) -/
theorem old_storeObj (bk : Bucket) (k j : Key) (o : Obj) : (bk.storeObj k o).old j = if k = j then o else bk.old j := by
  unfold old
  rw [find_storeObj]
  by_cases hk : k = j
  · simp only [hk, if_true]
    split
    · next hg =>
      obtain ⟨d, vs⟩ := o
      simp only [Bool.and_eq_true, Option.isNone_iff_eq_none, List.isEmpty_iff] at hg
      simp [hg.1, hg.2]
    · rfl
  · simp only [hk, if_false]

theorem put_eq (bk : Bucket) (k : Key) (item : Ver) :
    bk.put k item = bk.storeObj k ((bk.old k).push (bk.versioning == .enabled) item) := rfl

theorem rm_eq (bk : Bucket) (k : Key) (f : Nat) :
    bk.rm k f = match find bk.objects k with
      | none => (bk, false, none, false)
      | some o =>
        if bk.versioning == .enabled then (bk.put k ⟨f, true, [], [], []⟩, true, some f, true)
        else (bk.storeObj k o.dropCurrent, false, none, false) := by
  unfold rm
  cases find bk.objects k with
  | none => rfl
  | some o =>
    simp only
    split
    · rfl
    · change (match o.dropCurrent.data with | none => _ | some _ => _) = _
      cases hd : o.dropCurrent.data with
      | none => rw [storeObj_gone (Obj.dropCurrent_gone hd)]
      | some d => rw [storeObj_some hd]; rfl

theorem rm_eq_erase {bk : Bucket} {k : Key} (hv : bk.versioning ≠ .enabled)
    (h : ∀ o, find bk.objects k = some o → o.versions = []) (f : Nat) :
    bk.rm k f = ({ bk with objects := erase bk.objects k }, false, none, false) := by
  rw [rm_eq]
  cases hf : find bk.objects k with
  | none => rw [SMapL.erase_absent hf]
  | some o =>
    obtain ⟨d, vs⟩ := o
    cases h _ hf
    simp only [beq_false_of_ne hv, Bool.false_eq_true, if_false]
    rw [storeObj_gone (o := Obj.dropCurrent ⟨d, []⟩) ⟨rfl, rfl⟩]

theorem rmVersion_eq (bk : Bucket) (k : Key) (vid : Nat) :
    bk.rmVersion k vid = match find bk.objects k with
      | none => (bk, false, none)
      | some o => (bk.storeObj k (o.rmVer vid).1, (o.rmVer vid).2) := by
  unfold rmVersion
  cases find bk.objects k <;> rfl

/-- the same without a case split: an absent key holds `⟨none, []⟩`, and storing that changes nothing -/
theorem rmVersion_eq_old (bk : Bucket) (k : Key) (vid : Nat) :
    bk.rmVersion k vid = (bk.storeObj k ((bk.old k).rmVer vid).1, ((bk.old k).rmVer vid).2) := by
  rw [rmVersion_eq]
  unfold old
  cases hf : find bk.objects k with
  | none =>
    have : bk.storeObj k ⟨none, []⟩ = bk := by
      rw [storeObj_gone ⟨rfl, rfl⟩, SMapL.erase_absent hf]
    exact Prod.ext this.symm rfl
  | some o => rfl

end Bucket

/-- a read succeeds exactly on a stored object whose current version is not a delete marker -/
theorem Mem.get_eq_ok {m : Mem} {b : Bytes} {k : Key} {d : Ver} :
    m.get b k = .ok d ↔ ∃ bk o, find m.buckets b = some bk ∧ find bk.objects k = some o ∧ o.data = some d ∧ d.marker = false := by
  unfold Mem.get Mem.current
  constructor
  · intro h
    split at h
    · cases h
    · next bk hb =>
      split at h
      · cases h
      · next o ho =>
        split at h
        · cases h
        · next d' hd =>
          split at h
          · cases h
          · next hm => cases h; exact ⟨bk, o, hb, ho, hd, by simpa using hm⟩
  · rintro ⟨bk, o, hb, ho, hd, hm⟩
    simp only [hb, ho, hd, hm, Bool.false_eq_true, if_false]

/-- a committed upload is what the next read of the key returns -/
theorem Mem.get_putCommit_self (md5 : Bytes → Bytes) {m : Mem} {b : Bytes} {bk : Bucket} (hb : find m.buckets b = some bk)
    (k : Key) (md : Meta) (body : Bytes) :
    (m.putCommit md5 b k md body).1.get b k = .ok ⟨m.nextVer + 1, false, body, md5 body, md⟩ := by
  simp [Mem.putCommit, hb, Mem.get, Mem.current, Bucket.put, find_insert]

theorem Mem.put_err_unchanged {md5 : Bytes → Bytes} {m m' : Mem} {b : Bytes} {k : Key} {md : Meta} {body : Bytes} {c : ErrCode}
    (h : m.put md5 b k md body = (m', .err c)) : m' = m := by
  unfold Mem.put Mem.putCommit at h
  split at h
  · exact (congrArg Prod.fst h).symm
  · cases h

theorem Mem.head_eq_get (m : Mem) (b : Bytes) (k : Key) : m.head b k = m.get b k := rfl

/-- every bucket satisfies `I` at the counter's value -/
def Mem.All (I : Nat → Bucket → Prop) (m : Mem) : Prop := ∀ q ∈ m.buckets, I m.nextVer q.2

/-- `I` is kept by the steps of a bucket; `A` says under which keys an upload is admitted (a key
    the bucket holds always is: that is where `rm` puts a delete marker).  `bput` is asked for EVERY
    version with a fresh id, so only an `I` indifferent to what a version holds fits (`C07.Consistent`
    does not: `C07.bput_ok` needs `VerOk item`). -/
structure BucketInv (I : Nat → Bucket → Prop) (A : Key → Prop) : Prop where
  mono : ∀ {N N' bk}, N ≤ N' → I N bk → I N' bk
  fresh : ∀ N, I N ⟨.none, []⟩
  setV : ∀ {N bk} (v : VStatus), I N bk → I N { bk with versioning := v }
  bput : ∀ {N bk} (k : Key) (item : Ver), A k → N < item.id → I N bk → I item.id (bk.put k item)
  held : ∀ {N bk} (k : Key) (o : Obj), I N bk → find bk.objects k = some o → A k
  store : ∀ {N bk} (k : Key) (o : Obj), I N bk → find bk.objects k = some o →
    I N (bk.storeObj k o.dropCurrent) ∧ ∀ p, I N (bk.storeObj k { o with versions := o.versions.filter p })

theorem Mem.All.of_find {I : Nat → Bucket → Prop} {m : Mem} {b : Bytes} {bk : Bucket} (h : All I m)
    (hb : find m.buckets b = some bk) : I m.nextVer bk :=
  h (b, bk) (find_some_mem hb)

namespace BucketInv
variable {I : Nat → Bucket → Prop} {A : Key → Prop}

theorem empty (_ : BucketInv I A) : Mem.All I Mem.empty := List.forall_mem_nil _

/-- the shape of every mutation -/
theorem insert (hI : BucketInv I A) {m : Mem} {bk : Bucket} {N : Nat} (h : m.All I) (b : Bytes) (hN : m.nextVer ≤ N) (hb : I N bk) :
    Mem.All I ⟨SMap.insert m.buckets b bk, N⟩ :=
  SMapL.forall_mem_insert (fun q hq => hI.mono hN (h q hq)) b hb

theorem erase (_ : BucketInv I A) {m : Mem} (h : m.All I) (b : Bytes) : Mem.All I { m with buckets := SMap.erase m.buckets b } :=
  fun q hq => h q (SMapL.mem_erase hq)

theorem createBucket (hI : BucketInv I A) {m : Mem} (h : m.All I) (b : Bytes) : (m.createBucket b).1.All I := by
  unfold Mem.createBucket; split
  · exact h
  · exact hI.insert h b (Nat.le_refl _) (hI.fresh _)

theorem deleteBucket (hI : BucketInv I A) {m : Mem} (h : m.All I) (b : Bytes) : (m.deleteBucket b).1.All I := by
  unfold Mem.deleteBucket; split
  · exact h
  · split
    · exact h
    · exact hI.erase h b

theorem forceDeleteBucket (hI : BucketInv I A) {m : Mem} (h : m.All I) (b : Bytes) : (m.forceDeleteBucket b).1.All I := by
  unfold Mem.forceDeleteBucket; split
  · exact h
  · exact hI.erase h b

theorem setVersioning (hI : BucketInv I A) {m : Mem} (h : m.All I) (b : Bytes) (e : Bool) : (m.setVersioning b e).1.All I := by
  unfold Mem.setVersioning; split
  · exact h
  · rename_i bk hb; exact hI.insert h b (Nat.le_refl _) (hI.setV _ (h.of_find hb))

theorem putCommit (hI : BucketInv I A) (md5 : Bytes → Bytes) {m : Mem} (h : m.All I) (b : Bytes) (k : Key) (md : Meta) (body : Bytes)
    (hA : A k) : (m.putCommit md5 b k md body).1.All I := by
  unfold Mem.putCommit; split
  · exact h
  · rename_i bk hb
    exact hI.insert h b (Nat.le_succ _) (hI.bput k ⟨m.nextVer + 1, false, body, md5 body, md⟩ hA (Nat.lt_succ_self _) (h.of_find hb))

theorem put (hI : BucketInv I A) (md5 : Bytes → Bytes) {m : Mem} (h : m.All I) (b : Bytes) (k : Key) (md : Meta) (body : Bytes)
    (hA : A k) : (m.put md5 b k md body).1.All I :=
  hI.putCommit md5 h b k _ body hA

theorem rmVersion (hI : BucketInv I A) {N : Nat} {bk : Bucket} (k : Key) (vid : Nat) (h : I N bk) : I N (bk.rmVersion k vid).1 := by
  rw [Bucket.rmVersion_eq]
  cases ho : find bk.objects k with
  | none => exact h
  | some o =>
    simp only [Obj.rmVer_fst]
    split
    · exact (hI.store k o h ho).1
    · exact (hI.store k o h ho).2 _

/-- the counter moves to `f` exactly when `rm` draws the id (for a delete marker) -/
theorem rm (hI : BucketInv I A) {N f : Nat} {bk : Bucket} (k : Key) (hf : N < f) (h : I N bk) :
    I (if (bk.rm k f).2.2.2 then f else N) (bk.rm k f).1 := by
  rw [Bucket.rm_eq]
  cases ho : find bk.objects k with
  | none => exact h
  | some o =>
    by_cases hv : (bk.versioning == .enabled) = true
    · simp only [if_pos hv]; exact hI.bput k ⟨f, true, [], [], []⟩ (hI.held k o h ho) hf h
    · simp only [if_neg hv]; exact (hI.store k o h ho).1

theorem delete (hI : BucketInv I A) {m : Mem} (h : m.All I) (b : Bytes) (k : Key) : (m.delete b k).1.All I := by
  unfold Mem.delete; split
  · exact h
  · next bk hb => exact hI.insert h b (by split <;> omega) (hI.rm k (Nat.lt_succ_self _) (h.of_find hb))

theorem deleteVersion (hI : BucketInv I A) {m : Mem} (h : m.All I) (b : Bytes) (k : Key) (vid : Nat) :
    (m.deleteVersion b k vid).1.All I := by
  unfold Mem.deleteVersion; split
  · exact h
  · next bk hb => exact hI.insert h b (Nat.le_refl _) (hI.rmVersion k vid (h.of_find hb))

theorem deleteMulti (hI : BucketInv I A) {m : Mem} (h : m.All I) (b : Bytes) (ks : List Key) : (m.deleteMulti b ks).1.All I := by
  unfold Mem.deleteMulti; split
  · exact h
  · exact Fold.foldl_inv ks m (fun s k _ hs => hI.delete hs b k) h

theorem deleteMultiVersions (hI : BucketInv I A) {m : Mem} (h : m.All I) (b : Bytes) (objs : List (Key × Option Nat)) :
    (m.deleteMultiVersions b objs).1.All I := by
  unfold Mem.deleteMultiVersions; split
  · exact h
  · refine Fold.foldl_inv objs m (fun s p _ hs => ?_) h
    cases p.2 with
    | none => exact hI.delete hs b p.1
    | some vid => exact hI.deleteVersion hs b p.1 vid

end BucketInv
/-! ### answers

No operation of the store answers with a panic, whatever the store: every branch of its definition
ends in a written-out `.ok` or `.err`.  The reads `get`, `head` and `listBucket` dereference the
current version: `get_noPanic` asks for one under the key read, Props/C09 has the invariant. -/

theorem verLoop_noPanic (p : Prefix) (masked : Bool) (mk : Int) (km : Bytes) (vm : Option Nat) (objs : List (Key × Obj))
    (cnt : Int) (acc : VersionList) : (verLoop p masked mk km vm objs cnt acc).isPanic = false := by
  induction objs generalizing cnt acc with
  | nil => rfl
  | cons q rest ih =>
    unfold verLoop
    split
    · exact ih ..
    · exact ih ..
    · simp only
      split
      · rfl
      · split
        · rfl
        · split <;> rfl
        · exact ih ..

namespace Mem

theorem put_noPanic (md5 : Bytes → Bytes) (m : Mem) (b : Bytes) (k : Key) (md : Meta) (body : Bytes) :
    (m.put md5 b k md body).2.isPanic = false := by
  unfold put putCommit; split <;> rfl

theorem get_noPanic {m : Mem} {b : Bytes} {k : Key}
    (h : ∀ {bk o}, find m.buckets b = some bk → find bk.objects k = some o → o.data ≠ none) : (m.get b k).isPanic = false := by
  unfold get current
  split
  · rfl
  · next hb =>
    split
    · rfl
    · next ho =>
      split
      · next hd => exact absurd hd (h hb ho)
      · split <;> rfl

variable (m : Mem) (b : Bytes) (k : Key)

theorem createBucket_noPanic : (m.createBucket b).2.isPanic = false := by
  unfold createBucket; split <;> rfl

theorem deleteBucket_noPanic : (m.deleteBucket b).2.isPanic = false := by
  unfold deleteBucket
  split
  · rfl
  · split <;> rfl

theorem forceDeleteBucket_noPanic : (m.forceDeleteBucket b).2.isPanic = false := by
  unfold forceDeleteBucket; split <;> rfl

theorem delete_noPanic : (m.delete b k).2.isPanic = false := by
  unfold delete; split <;> rfl

theorem deleteVersion_noPanic (vid : Nat) : (m.deleteVersion b k vid).2.isPanic = false := by
  unfold deleteVersion; split <;> rfl

theorem deleteMulti_noPanic (ks : List Key) : (m.deleteMulti b ks).2.isPanic = false := by
  unfold deleteMulti; split <;> rfl

theorem deleteMultiVersions_noPanic (objs : List (Key × Option Nat)) : (m.deleteMultiVersions b objs).2.isPanic = false := by
  unfold deleteMultiVersions; split <;> rfl

theorem versioning_noPanic : (m.versioning b).isPanic = false := by
  unfold versioning; split <;> rfl

theorem setVersioning_noPanic (e : Bool) : (m.setVersioning b e).2.isPanic = false := by
  unfold setVersioning; split <;> rfl

theorem getVersion_noPanic (vid : Nat) : (m.getVersion b k vid).isPanic = false := by
  unfold getVersion Bucket.objectVersion
  repeat' split
  all_goals rfl

theorem listVersions_noPanic (p : Prefix) (km : Bytes) (vm : Option Nat) (mk : Int) :
    (m.listVersions b p km vm mk).isPanic = false := by
  unfold listVersions
  split
  · rfl
  · split
    · exact verLoop_noPanic ..
    · split
      · rfl
      · exact verLoop_noPanic ..

end Mem
end GFS.Model

/-! The mutating operations as one type, under the names the statements of Props/C13S and C13I use. -/
namespace GFS.Props.C13I
open GFS.Model

inductive Op where
  | createBucket (b : Bytes)
  | deleteBucket (b : Bytes)
  | forceDeleteBucket (b : Bytes)
  | put (b : Bytes) (k : Key) (md : Meta) (body : Bytes)
  | delete (b : Bytes) (k : Key)
  | deleteVersion (b : Bytes) (k : Key) (vid : Nat)
  | deleteMulti (b : Bytes) (ks : List Key)
  | deleteMultiVersions (b : Bytes) (objs : List (Key × Option Nat))
  | setVersioning (b : Bytes) (enabled : Bool)

def step (md5 : Bytes → Bytes) (m : Mem) : Op → Mem
  | .createBucket b => (m.createBucket b).1
  | .deleteBucket b => (m.deleteBucket b).1
  | .forceDeleteBucket b => (m.forceDeleteBucket b).1
  | .put b k md body => (m.put md5 b k md body).1
  | .delete b k => (m.delete b k).1
  | .deleteVersion b k vid => (m.deleteVersion b k vid).1
  | .deleteMulti b ks => (m.deleteMulti b ks).1
  | .deleteMultiVersions b objs => (m.deleteMultiVersions b objs).1
  | .setVersioning b e => (m.setVersioning b e).1

/-- every operation keeps what the steps of a bucket keep (`A`: which keys may be uploaded to) -/
theorem step_all {I : Nat → Bucket → Prop} {A : Key → Prop} (hI : BucketInv I A) (md5 : Bytes → Bytes) {m : Mem} {op : Op}
    (hA : ∀ b k md body, op = .put b k md body → A k) (h : m.All I) : (step md5 m op).All I := by
  cases op with
  | createBucket b => exact hI.createBucket h b
  | deleteBucket b => exact hI.deleteBucket h b
  | forceDeleteBucket b => exact hI.forceDeleteBucket h b
  | put b k md body => exact hI.put md5 h b k md body (hA b k md body rfl)
  | delete b k => exact hI.delete h b k
  | deleteVersion b k vid => exact hI.deleteVersion h b k vid
  | deleteMulti b ks => exact hI.deleteMulti h b ks
  | deleteMultiVersions b objs => exact hI.deleteMultiVersions h b objs
  | setVersioning b e => exact hI.setVersioning h b e

end GFS.Props.C13I
