import GFS.Base.SMap
/- Membership in association lists after insert / erase / find; `mapV` (mapping the values) commutes with the operations.
   `GFS.SMap` continues Base/SMap: what `find` says about membership and `keys`.  `GFS.SMapL` has `mapV`, which
   Base/SMap does not define, with its lemmas, and what `insert` / `erase` do to membership: the names proof files `open`. -/
namespace GFS.SMap

theorem find_some_mem {α} {m : SMap α} {k : Bytes} {v : α} (h : find m k = some v) : (k, v) ∈ m := by
  induction m with
  | nil => simp at h
  | cons p rest ih =>
    rw [find_cons] at h
    split at h
    · next e => cases e; cases h; exact List.mem_cons_self ..
    · exact List.mem_cons_of_mem _ (ih h)

theorem mem_keys_iff {α} (m : SMap α) (k : Bytes) : k ∈ keys m ↔ (find m k).isSome = true := by
  rw [find_eq_find?, Option.isSome_map, List.find?_isSome, keys, List.mem_map]
  simp only [beq_iff_eq]

end GFS.SMap

namespace GFS.SMapL

theorem mem_insert {α} {m : SMap α} {k : Bytes} {v : α} {p : Bytes × α} : p ∈ SMap.insert m k v → p = (k, v) ∨ p ∈ m := by
  fun_induction SMap.insert m k v with
  | case1 => simp
  | case2 k' w rest h => simp only [List.mem_cons]; exact Or.imp_right Or.inr
  | case3 k' w rest h1 h2 => simp only [List.mem_cons]; exact id
  | case4 k' w rest h1 h2 ih =>
    simp only [List.mem_cons]
    rintro (h | h)
    · exact Or.inr (Or.inl h)
    · exact (ih h).imp_right Or.inr

theorem mem_erase {α} {m : SMap α} {k : Bytes} {p : Bytes × α} (hp : p ∈ SMap.erase m k) : p ∈ m :=
  (List.mem_filter.mp hp).1

theorem forall_mem_insert {α} {P : α → Prop} {m : SMap α} {v : α} (h : ∀ q ∈ m, P q.2) (k : Bytes) (hv : P v) :
    ∀ q ∈ SMap.insert m k v, P q.2 := by
  intro q hq
  rcases mem_insert hq with rfl | hq
  · exact hv
  · exact h q hq

def mapV {α β} (f : α → β) (m : SMap α) : SMap β := m.map (fun p => (p.1, f p.2))

theorem mapV_insert {α β} (f : α → β) (m : SMap α) (k : Bytes) (v : α) :
    mapV f (SMap.insert m k v) = SMap.insert (mapV f m) k (f v) := by
  fun_induction SMap.insert m k v with
  | case1 => rfl
  | case2 k' w rest h => simp [mapV, SMap.insert, h]
  | case3 k' w rest h1 h2 => simp [mapV, SMap.insert, h1, h2]
  | case4 k' w rest h1 h2 ih => simp only [mapV, List.map_cons, SMap.insert, h1, h2] at ih ⊢; simp [ih]

theorem find_mapV {α β} (f : α → β) (m : SMap α) (k : Bytes) :
    SMap.find (mapV f m) k = (SMap.find m k).map f := by
  rw [SMap.find_eq_find?, SMap.find_eq_find?, mapV, List.find?_map, Option.map_map, Option.map_map]
  rfl

theorem mapV_erase {α β} (f : α → β) (m : SMap α) (k : Bytes) :
    mapV f (SMap.erase m k) = SMap.erase (mapV f m) k := by
  simp [SMap.erase, mapV, List.filter_map, Function.comp_def]

theorem mapV_mapV {α β γ} (g : β → γ) (f : α → β) (m : SMap α) : mapV g (mapV f m) = mapV (g ∘ f) m := by
  simp [mapV]

theorem keys_mapV {α β} (f : α → β) (m : SMap α) : SMap.keys (mapV f m) = SMap.keys m := by
  simp [SMap.keys, mapV]

theorem isEmpty_mapV {α β} (f : α → β) (m : SMap α) : (mapV f m).isEmpty = m.isEmpty := by
  cases m <;> simp [mapV]

theorem erase_absent {α} {m : SMap α} {k : Bytes} (h : SMap.find m k = none) : SMap.erase m k = m := by
  have hk : k ∉ SMap.keys m := by rw [SMap.mem_keys_iff, h]; exact Bool.false_ne_true
  exact List.filter_eq_self.mpr fun p hp => by
    simpa using fun e : p.1 = k => hk (e ▸ List.mem_map_of_mem hp)

end GFS.SMapL
