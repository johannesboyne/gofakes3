/-
  Lists of pairs looked up by `find? (·.1 == j)` (the upload table, the specification's `latest`,
  the files of the tree model): lookup after dropping a key, after replacing an entry, after a map
  that keeps the keys.
-/
namespace GFS.Assoc
variable {κ β : Type} [BEq κ] [LawfulBEq κ] [DecidableEq κ]

theorem find?_filter_ne (l : List (κ × β)) (k j : κ) :
    (l.filter (fun p => !(p.1 == k))).find? (·.1 == j) = if j = k then none else l.find? (·.1 == j) := by
  rw [List.find?_filter]
  split
  · subst j; simp
  · next h =>
    congr 1; funext p
    by_cases hp : p.1 = j
    · subst hp; simp [h]    -- an entry with key `j` passes the filter, as `j ≠ k`
    · simp [hp]

theorem find?_replace (l : List (κ × β)) (k j : κ) (v : β) :
    (l.filter (fun p => !(p.1 == k)) ++ [(k, v)]).find? (·.1 == j) = if j = k then some (k, v) else l.find? (·.1 == j) := by
  rw [List.find?_append, find?_filter_ne]
  by_cases h : j = k
  · subst h; simp
  · have : (k == j) = false := beq_false_of_ne (Ne.symm h)
    simp [h, this]

omit [LawfulBEq κ] [DecidableEq κ] in
theorem find?_map_val (l : List (κ × β)) (f : κ × β → κ × β) (hf : ∀ p, (f p).1 = p.1) (j : κ) :
    (l.map f).find? (·.1 == j) = (l.find? (·.1 == j)).map f := by
  rw [List.find?_map]
  congr 2; funext p; simp [hf]

end GFS.Assoc
