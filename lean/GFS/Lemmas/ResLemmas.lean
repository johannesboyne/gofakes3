import GFS.Base.Res
/- Results of modelled calls.  "Not a panic" is the Boolean `isPanic = false` (`ok_or_err`,
   `guard_noPanic`).  The modelled handlers are chains of guards `if c then <refusal> else …`:
   `simp only [ite_err_eq_ok] at h` turns "the chain returned a value" into the negated guards and
   the equation for the last link, without splitting the (large) term. -/
namespace GFS.Res

theorem isPanic_eq_false {α : Type} {r : Res α} : r.isPanic = false ↔ ∀ s, r ≠ .panic s := by
  cases r <;> simp [isPanic]

theorem ok_or_err {α : Type} {r : Res α} (h : r.isPanic = false) : (∃ a, r = .ok a) ∨ ∃ c, r = .err c := by
  cases r with
  | ok a => exact .inl ⟨a, rfl⟩
  | err c => exact .inr ⟨c, rfl⟩
  | panic s => exact Bool.noConfusion h

theorem pair_ok_or_err {σ α : Type} {x : σ × Res α} (h : x.2.isPanic = false) :
    (∃ a, x = (x.1, .ok a)) ∨ ∃ c, x = (x.1, .err c) := by
  obtain ⟨m, r⟩ := x
  exact (ok_or_err h).imp (fun ⟨a, e⟩ => ⟨a, congrArg (Prod.mk m) e⟩) fun ⟨c, e⟩ => ⟨c, congrArg (Prod.mk m) e⟩

theorem guard_noPanic {α : Type} {c : Prop} [Decidable c] {e : ErrCode} {r : Res α} (h : r.isPanic = false) :
    (if c then .err e else r).isPanic = false := by
  split
  · rfl
  · exact h

theorem ite_err_eq_ok {α} {c : Prop} [Decidable c] {e : ErrCode} {r : Res α} {a : α} :
    (if c then .err e else r) = .ok a ↔ ¬ c ∧ r = .ok a := by
  by_cases h : c <;> simp [h]

theorem ite_panic_eq_ok {α} {c : Prop} [Decidable c] {s : PanicSite} {r : Res α} {a : α} :
    (if c then .panic s else r) = .ok a ↔ ¬ c ∧ r = .ok a := by
  by_cases h : c <;> simp [h]

end GFS.Res
