import GFS.Lemmas.Order
import GFS.Lemmas.Fold
/- Extensionality of sorted maps: two strictly ascending association lists that answer every
   lookup alike are the same list (`sorted_ext`), so refinement proofs reason through `find` only.
   With it: `insert_of_find`, `keys_eq_of_isSome`, `find_of_mem_sorted`, and the map built by folding
   `insert` over a list (`find_foldl_insert`, `sorted_foldl_insert`, `mem_foldl_insert`). -/
namespace GFS.SMap
open GFS.Bytes
variable {α : Type}

theorem find_none_of_lt {m : SMap α} {k : Bytes} (h : ∀ q ∈ m, lt k q.1 = true) : find m k = none := by
  cases hf : find m k with
  | none => rfl
  | some v => simpa [lt_irrefl] using h (k, v) (find_some_mem hf)

theorem sorted_ext (m n : SMap α) (hm : Sorted m) (hn : Sorted n) (h : ∀ k, find m k = find n k) : m = n := by
  induction m generalizing n with
  | nil =>
    cases n with
    | nil => rfl
    | cons q n' => simpa [find_cons] using h q.1
  | cons p m' ih =>
    cases n with
    | nil => simpa [find_cons] using h p.1
    | cons q n' =>
      obtain ⟨k, v⟩ := p
      obtain ⟨k2, v2⟩ := q
      obtain ⟨hkm, hm'⟩ := List.pairwise_cons.mp hm
      obtain ⟨hkn, hn'⟩ := List.pairwise_cons.mp hn
      -- were the first keys different, each would occur later in the other map: k2 < k < k2
      have hk : k = k2 := Decidable.by_contra fun e => by
        have h1 := h k
        have h2 := h k2
        simp only [find_cons, if_neg e, if_neg (Ne.symm e)] at h1 h2
        have l1 := hkn _ (find_some_mem h1.symm)
        have l2 := hkm _ (find_some_mem h2)
        simp [lt_asymm l1] at l2
      subst hk
      have hv : v = v2 := by simpa [find_cons] using h k
      subst hv
      congr 1
      refine ih n' hm' hn' fun j => ?_
      by_cases e : k = j
      · subst e; rw [find_none_of_lt hkm, find_none_of_lt hkn]
      · simpa [find_cons, e] using h j

theorem find_of_mem_sorted {m : SMap α} (h : Sorted m) {k : Bytes} {v : α} (hm : (k, v) ∈ m) : find m k = some v := by
  induction m with
  | nil => cases hm
  | cons q rest ih =>
    obtain ⟨hq, hs⟩ := List.pairwise_cons.mp h
    rw [find_cons]
    rcases List.mem_cons.mp hm with rfl | hin
    · exact if_pos rfl
    · -- the first key is below every later one
      rw [if_neg, ih hs hin]
      rintro rfl
      simpa [lt_irrefl] using hq _ hin

theorem insert_of_find {m : SMap α} {k : Bytes} {v : α} (hs : Sorted m) (hf : find m k = some v) : insert m k v = m :=
  sorted_ext _ _ (sorted_insert hs) hs fun j => by
    rw [find_insert]; split
    · next e => rw [← e, hf]
    · rfl

theorem sorted_mapV {β} {f : α → β} {m : SMap α} (h : Sorted m) : Sorted (GFS.SMapL.mapV f m) :=
  List.pairwise_map.mpr h

variable {β : Type}

theorem keys_eq_of_isSome {m : SMap α} {n : SMap β} (hm : Sorted m) (hn : Sorted n)
    (h : ∀ k, (find m k).isSome = (find n k).isSome) : keys m = keys n := by
  rw [← GFS.SMapL.keys_mapV (fun _ => ()) m, ← GFS.SMapL.keys_mapV (fun _ => ()) n]
  congr 1
  refine sorted_ext _ _ (sorted_mapV hm) (sorted_mapV hn) fun k => ?_
  have := h k
  rw [GFS.SMapL.find_mapV, GFS.SMapL.find_mapV]
  cases hf : find m k <;> cases hg : find n k <;> simp_all

theorem find_foldl_insert (g : α → Bytes) (h : α → β) (l : List α) : ∀ (m : SMap β) (k : Bytes),
    find (l.foldl (fun m a => insert m (g a) (h a)) m) k =
      ((l.reverse.find? (fun a => g a == k)).map h).or (find m k) := by
  induction l with
  | nil => intro m k; rfl
  | cons a rest ih =>
    intro m k
    rw [List.foldl_cons, ih, List.reverse_cons, List.find?_append]
    cases rest.reverse.find? (fun a => g a == k) with
    | some x => rfl
    | none =>
      rw [find_insert]
      by_cases e : g a = k <;> simp [e]

theorem sorted_foldl_insert (g : α → Bytes) (h : α → β) (l : List α) (m : SMap β) (hm : Sorted m) :
    Sorted (l.foldl (fun m a => insert m (g a) (h a)) m) :=
  Fold.foldl_inv l m (fun _ _ _ => sorted_insert) hm

theorem mem_foldl_insert (g : α → Bytes) (h : α → β) (l : List α) (m : SMap β) :
    ∀ q ∈ l.foldl (fun m a => insert m (g a) (h a)) m, q ∈ m ∨ ∃ a ∈ l, q = (g a, h a) :=
  Fold.foldl_inv (P := fun s => ∀ q ∈ s, q ∈ m ∨ ∃ a ∈ l, q = (g a, h a)) l m
    (fun _ a ha hs _ hq => (GFS.SMapL.mem_insert hq).elim (fun e => .inr ⟨a, ha, e⟩) (hs _)) fun _ => .inl

end GFS.SMap
