import GFS.Base.BEqUInt8
import GFS.Base.Bytes
/- The `strings.*` models of Base/Bytes.lean.  First as the list operations of the library, so that
   its lemmas about `<+:`, `<:+`, `dropWhile` and `findIdx?` apply; then `strings.Split` / `Join`
   at one separator byte (`splitOn1`, `join1`): the pieces, their first and last bytes, appending.
   `splitOn1` is followed separator by separator, not byte by byte: a string has no separator
   (`splitOn1_of_notMem`) or is `a ++ d :: b` with none in `a` (`splitOn1_append_cons_of_notMem`),
   and `sep_induction` is the induction over that.  Splitting and joining are inverse to each other
   (`join_split`, `split_join`), so what holds of a join holds of the string. -/
namespace GFS.Bytes

theorem hasPrefix_iff {s p : Bytes} : hasPrefix s p = true ↔ p <+: s := by
  induction p generalizing s with
  | nil => cases s <;> simp [hasPrefix]
  | cons c cs ih =>
    cases s with
    | nil => simp [hasPrefix]
    | cons a as =>
      simp only [hasPrefix, Bool.and_eq_true, beq_iff_eq, ih, List.cons_prefix_cons]
      exact and_congr_left' eq_comm

theorem hasSuffix_iff {s p : Bytes} : hasSuffix s p = true ↔ p <:+ s := by
  rw [hasSuffix, hasPrefix_iff, List.reverse_prefix]

theorem trimLeft1_eq (d : UInt8) (s : Bytes) : trimLeft1 d s = s.dropWhile (· == d) := by
  induction s with
  | nil => rfl
  | cons c cs ih => simp only [trimLeft1, List.dropWhile_cons, ih]

theorem trimLeft1_replicate_append (d : UInt8) (n : Nat) (s : Bytes) :
    trimLeft1 d (List.replicate n d ++ s) = trimLeft1 d s := by
  simp only [trimLeft1_eq]
  exact List.dropWhile_append_of_pos (by simp)

theorem trimLeft1_id {d : UInt8} {s : Bytes} (h : s.head? ≠ some d) : trimLeft1 d s = s := by
  cases s with
  | nil => rfl
  | cons c cs => simp at h; simp [trimLeft1, h]

theorem trim1_replicate_append (d : UInt8) (i j : Nat) {core : Bytes} (hs : core.head? ≠ some d) (he : core.getLast? ≠ some d) :
    trim1 d (List.replicate i d ++ core ++ List.replicate j d) = core := by
  cases core with
  | nil => simp [trim1, trimLeft1_eq]
  | cons c cs =>
    have h1 : (c :: cs ++ List.replicate j d).head? ≠ some d := hs
    have h2 : (c :: cs).reverse.head? ≠ some d := by rwa [List.head?_reverse]
    rw [trim1, List.append_assoc, trimLeft1_replicate_append, trimLeft1_id h1, List.reverse_append,
      List.reverse_replicate, trimLeft1_replicate_append, trimLeft1_id h2, List.reverse_reverse]

theorem indexOf_eq (d : UInt8) (s : Bytes) : indexOf d s = s.findIdx? (· == d) := by
  induction s with
  | nil => rfl
  | cons c cs ih => simp only [indexOf, List.findIdx?_cons, ih]

theorem indexOf_eq_none {d : UInt8} {s : Bytes} : indexOf d s = none ↔ d ∉ s := by
  simp only [indexOf_eq, List.findIdx?_eq_none_iff, beq_eq_false_iff_ne]
  exact ⟨fun h hd => h d hd rfl, fun h x hx e => h (e ▸ hx)⟩

theorem indexOf_append_of_notMem {d : UInt8} {b rest : Bytes} (h : d ∉ b) :
    indexOf d (b ++ d :: rest) = some b.length := by
  induction b with
  | nil => simp [indexOf]
  | cons c cs ih =>
    have hc : (c == d) = false := by simpa using fun e : c = d => h (e ▸ List.mem_cons_self ..)
    simp [indexOf, hc, ih fun m => h (List.mem_cons_of_mem _ m)]

theorem splitOn1_indexOf (d : UInt8) (s : Bytes) :
    splitOn1 d s = match indexOf d s with
      | none => [s]
      | some i => s.take i :: splitOn1 d (s.drop (i + 1)) := by
  induction s with
  | nil => rfl
  | cons c cs ih =>
    rw [splitOn1, indexOf]
    split
    · rfl
    · rw [ih]
      cases indexOf d cs <;> rfl

theorem take_succ_of_indexOf {d : UInt8} {s : Bytes} {i : Nat} (h : indexOf d s = some i) :
    s.take (i + 1) = s.take i ++ [d] := by
  obtain ⟨hi, hd, -⟩ := List.findIdx?_eq_some_iff_getElem.mp (indexOf_eq d s ▸ h)
  rw [List.take_succ_eq_append_getElem hi, beq_iff_eq.mp hd]

theorem notMem_take_of_indexOf {d : UInt8} {s : Bytes} {i : Nat} (h : indexOf d s = some i) : d ∉ s.take i := by
  obtain ⟨_, _, hlt⟩ := List.findIdx?_eq_some_iff_getElem.mp (indexOf_eq d s ▸ h)
  intro hm
  obtain ⟨j, hj, e⟩ := List.mem_take_iff_getElem.mp hm
  exact hlt j (by omega) (by simp [e])

theorem splitOn1_of_notMem {d : UInt8} {s : Bytes} (h : d ∉ s) : splitOn1 d s = [s] := by
  rw [splitOn1_indexOf, indexOf_eq_none.mpr h]

theorem splitOn1_append_cons_of_notMem {d : UInt8} {a b : Bytes} (h : d ∉ a) :
    splitOn1 d (a ++ d :: b) = a :: splitOn1 d b := by
  rw [splitOn1_indexOf, indexOf_append_of_notMem h]
  simp

theorem sep_induction (d : UInt8) {P : Bytes → Prop} (base : ∀ s, d ∉ s → P s)
    (step : ∀ a b, d ∉ a → P b → P (a ++ d :: b)) (s : Bytes) : P s := by
  induction hn : s.length using Nat.strongRecOn generalizing s with
  | ind n ih =>
    by_cases h : d ∈ s
    · obtain ⟨a, b, rfl, ha⟩ := List.eq_append_cons_of_mem h
      exact step a b ha (ih b.length (by rw [← hn, List.length_append, List.length_cons]; omega) b rfl)
    · exact base s h

theorem splitOn1_ne_nil (d : UInt8) (s : Bytes) : splitOn1 d s ≠ [] := by
  rw [splitOn1_indexOf]
  split <;> exact List.cons_ne_nil _ _

theorem splitOn1_no_sep (d : UInt8) (s : Bytes) : ∀ l ∈ splitOn1 d s, d ∉ l := by
  induction s using sep_induction d with
  | base s h => rw [splitOn1_of_notMem h]; simpa using h
  | step a b ha ih => rw [splitOn1_append_cons_of_notMem ha]; exact List.forall_mem_cons.mpr ⟨ha, ih⟩

theorem all_splitOn1 (p : UInt8 → Bool) (d : UInt8) (hd : p d = true) (s : Bytes) :
    s.all p = (splitOn1 d s).all (fun l => l.all p) := by
  induction s using sep_induction d with
  | base s h => simp [splitOn1_of_notMem h]
  | step a b ha ih => simp [splitOn1_append_cons_of_notMem ha, hd, ih]

theorem head?_eq_of_splitOn1 {d : UInt8} {s l : Bytes} {ls : List Bytes}
    (h : splitOn1 d s = l :: ls) (hl : l ≠ []) : s.head? = l.head? := by
  induction s using sep_induction d with
  | base s hs => rw [splitOn1_of_notMem hs] at h; cases h; rfl
  | step a b ha _ =>
    rw [splitOn1_append_cons_of_notMem ha] at h
    cases h
    obtain ⟨x, xs, rfl⟩ := List.exists_cons_of_ne_nil hl
    rfl

theorem join1_cons (d : UInt8) (p : Bytes) {ps : List Bytes} (h : ps ≠ []) :
    join1 d (p :: ps) = p ++ d :: join1 d ps := by
  cases ps with
  | nil => exact absurd rfl h
  | cons q qs => rfl

/-- `strings.Join(strings.Split(s, d), d) == s` -/
theorem join_split (d : UInt8) (s : Bytes) : join1 d (splitOn1 d s) = s := by
  induction s using sep_induction d with
  | base s h => rw [splitOn1_of_notMem h]; rfl
  | step a b ha ih => rw [splitOn1_append_cons_of_notMem ha, join1_cons d a (splitOn1_ne_nil d b), ih]

theorem split_join (d : UInt8) {ps : List Bytes} (hne : ps ≠ []) (h : ∀ p ∈ ps, d ∉ p) :
    splitOn1 d (join1 d ps) = ps := by
  induction ps with
  | nil => exact absurd rfl hne
  | cons p ps ih =>
    obtain ⟨hp, hps⟩ := List.forall_mem_cons.mp h
    cases ps with
    | nil => exact splitOn1_of_notMem hp
    | cons q qs => rw [join1_cons d p (List.cons_ne_nil q qs), splitOn1_append_cons_of_notMem hp, ih (List.cons_ne_nil q qs) hps]

theorem join1_append_last (d : UInt8) (A : List Bytes) (s y : Bytes) (tl : List Bytes) :
    join1 d (A ++ (s ++ y) :: tl) = join1 d (A ++ [s]) ++ join1 d (y :: tl) := by
  induction A with
  | nil => cases tl <;> simp [join1]
  | cons a A' ih =>
    rw [List.cons_append, List.cons_append, join1_cons d a (List.append_ne_nil_of_right_ne_nil A' (List.cons_ne_nil _ _)),
      join1_cons d a (List.append_ne_nil_of_right_ne_nil A' (List.cons_ne_nil _ _)), ih, List.append_assoc]
    rfl

/-- the parts of `a ++ b`: those of `a`, the last of them glued to the first of `b`, then the
    other parts of `b` -/
theorem splitOn1_append {d : UInt8} {a b s h : Bytes} {A t : List Bytes} (ha : splitOn1 d a = A ++ [s])
    (hb : splitOn1 d b = h :: t) : splitOn1 d (a ++ b) = A ++ (s ++ h) :: t := by
  have hA := splitOn1_no_sep d a
  have hB := splitOn1_no_sep d b
  rw [ha] at hA
  rw [hb] at hB
  -- `a ++ b` is the join of these parts, none of which has a separator
  rw [← join_split d a, ← join_split d b, ha, hb, ← join1_append_last]
  refine split_join d (List.append_ne_nil_of_right_ne_nil A (List.cons_ne_nil _ _)) fun l hl => ?_
  rcases List.mem_append.mp hl with hl | hl
  · exact hA l (List.mem_append_left _ hl)
  · rcases List.mem_cons.mp hl with rfl | hl
    · exact fun hm => (List.mem_append.mp hm).elim (hA s (List.mem_append_right _ (List.mem_singleton_self s))) (hB h (List.mem_cons_self ..))
    · exact hB l (List.mem_cons_of_mem _ hl)

theorem exists_splitOn1_concat (d : UInt8) (s : Bytes) : ∃ A l, splitOn1 d s = A ++ [l] :=
  (List.eq_nil_or_concat (splitOn1 d s)).elim (fun h => absurd h (splitOn1_ne_nil d s))
    (fun ⟨A, l, h⟩ => ⟨A, l, by rw [h, List.concat_eq_append]⟩)

theorem getLast?_eq_of_splitOn1 {d : UInt8} {s : Bytes} {A : List Bytes} {l : Bytes} (hP : splitOn1 d s = A ++ [l])
    (hl : l ≠ []) : s.getLast? = l.getLast? := by
  have hs : s = join1 d (A ++ [[]]) ++ l := by
    have := join1_append_last d A [] l []
    rw [List.nil_append] at this
    rw [← join_split d s, hP, this]; rfl
  obtain ⟨x, xs, rfl⟩ := List.exists_cons_of_ne_nil hl
  rw [hs]; simp [List.getLast?_cons]

theorem splitOn1_append_sep (d : UInt8) (a b : Bytes) : splitOn1 d (a ++ d :: b) = splitOn1 d a ++ splitOn1 d b := by
  obtain ⟨A, l, hA⟩ := exists_splitOn1_concat d a
  have hb : splitOn1 d (d :: b) = [] :: splitOn1 d b := by simp [splitOn1]
  rw [splitOn1_append hA hb, hA]
  simp

end GFS.Bytes
