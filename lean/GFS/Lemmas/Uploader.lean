import GFS.Model.FrontMp
import GFS.Lemmas.Assoc
import GFS.Lemmas.ResLemmas
import GFS.Lemmas.MemOps
/-
  What the operations of the uploader model (Model/Uploader.lean) do: lookups in a bucket's
  bookkeeping after add / set / remove, when `get` finds an upload, and the state each of
  create / uploadPart / abort / complete leaves — the old one, or the old one with one bucket's
  bookkeeping replaced (`Chg`); `complete` also in forward form, for a caller that knows what `get`
  and `validate` answer, `listParts` for one that knows what `get` answers; no operation answers
  with a panic, whatever the state.  `Op`, `step`, `isOk`: the requests the histories of C06 and C14
  consist of, and whether one was acknowledged.  `UplInv`: what add / set / remove keep of a
  bucket's bookkeeping, every request and run keeps.
-/
namespace GFS.Model

namespace BUps

theorem find_add (bu : BUps) (m : MPU) (id : Nat) :
    (bu.add m).find id = if id = m.id then some m else bu.find id := by
  simp only [add, find, Assoc.find?_replace]
  split <;> rfl

theorem find_remove (bu : BUps) (m : MPU) (id : Nat) :
    (bu.remove m).find id = if id = m.id then none else bu.find id := by
  simp only [remove, find, Assoc.find?_filter_ne]
  split <;> rfl

theorem find_set (bu : BUps) (m : MPU) (id : Nat) :
    (bu.set m).find id = if id = m.id then (bu.find id).map (fun _ => m) else bu.find id := by
  simp only [set, find]
  rw [Assoc.find?_map_val _ _ (fun p => by split <;> rfl)]
  cases h : bu.uploads.find? (·.1 == id) with
  | none => simp
  | some p =>
    have : p.1 = id := by simpa using List.find?_some h
    by_cases hid : id = m.id <;> simp [this, hid]

theorem find_mem {bu : BUps} {id : Nat} {m : MPU} (h : bu.find id = some m) : (id, m) ∈ bu.uploads := by
  obtain ⟨p, hp, rfl⟩ := Option.map_eq_some_iff.mp h
  have : p.1 = id := by simpa using List.find?_some hp
  exact this ▸ List.mem_of_find?_eq_some hp

theorem forall_remove {Q : Nat × MPU → Prop} {bu : BUps} (m : MPU) (h : ∀ p ∈ bu.uploads, Q p) :
    ∀ p ∈ (bu.remove m).uploads, Q p :=
  fun p hp => h p (List.mem_filter.mp hp).1

theorem forall_add {Q : Nat × MPU → Prop} {bu : BUps} {m : MPU} (h : ∀ p ∈ bu.uploads, Q p) (hm : Q (m.id, m)) :
    ∀ p ∈ (bu.add m).uploads, Q p := by
  intro p hp
  rcases List.mem_append.mp hp with hp | hp
  · exact h p (List.mem_filter.mp hp).1
  · rw [List.mem_singleton.mp hp]; exact hm

theorem forall_set {Q : Nat × MPU → Prop} {bu : BUps} {m : MPU} (h : ∀ p ∈ bu.uploads, Q p)
    (hm : ∀ p ∈ bu.uploads, p.1 = m.id → Q (p.1, m)) : ∀ p ∈ (bu.set m).uploads, Q p := by
  intro p hp
  obtain ⟨q, hq, rfl⟩ := List.mem_map.mp hp
  split
  · exact hm q hq (by simpa using ‹(q.1 == m.id) = true›)
  · exact h q hq

theorem index_add (bu : BUps) (m : MPU) (k : Key) :
    (SMap.find (bu.add m).index k).getD [] =
      if m.key = k then (SMap.find bu.index k).getD [] ++ [m.id] else (SMap.find bu.index k).getD [] := by
  simp only [add, SMap.find_insert]
  split
  · subst k; rfl
  · rfl

theorem index_remove (bu : BUps) (m : MPU) (k : Key) :
    (SMap.find (bu.remove m).index k).getD [] =
      if m.key = k then ((SMap.find bu.index k).getD []).filter (fun i => !(i == m.id)) else (SMap.find bu.index k).getD [] := by
  simp only [remove]
  split
  · rename_i he
    rw [SMap.find_erase]
    split
    · subst k; exact (List.isEmpty_iff.mp he).symm
    · rfl
  · rw [SMap.find_insert]
    split
    · subst k; rfl
    · rfl

end BUps

namespace Upl

abbrev withBucket (u : Upl) (b : Bytes) (bu : BUps) (n : Nat := u.nextId) : Upl := ⟨SMap.insert u.buckets b bu, n⟩

theorem get_eq_ok {u : Upl} {b : Bytes} {k : Key} {id : Nat} {bu : BUps} {m : MPU} :
    u.get b k id = .ok (bu, m) ↔
      SMap.find u.buckets b = some bu ∧ bu.find id = some m ∧ m.bucket = b ∧ m.key = k := by
  constructor
  · intro h
    unfold get at h
    split at h
    · cases h
    · rename_i bu0 hb
      split at h
      · cases h
      · rename_i m0 hf
        split at h
        · rename_i hc
          cases h
          simpa [hb, hf] using hc
        · cases h
  · rintro ⟨hb, hf, rfl, rfl⟩
    simp [get, hb, hf]

theorem get_cases (u : Upl) (b : Bytes) (k : Key) (id : Nat) :
    (∃ bu m, u.get b k id = .ok (bu, m)) ∨ u.get b k id = .err .NoSuchUpload := by
  unfold get
  split
  · exact .inr rfl
  · split
    · exact .inr rfl
    · split
      · exact .inl ⟨_, _, rfl⟩
      · exact .inr rfl

theorem get_unique {u : Upl} {b : Bytes} {k k' : Key} {id : Nat} {bu bu' : BUps} {m m' : MPU}
    (h : u.get b k id = .ok (bu, m)) (h' : u.get b k' id = .ok (bu', m')) : k = k' ∧ bu = bu' ∧ m = m' := by
  obtain ⟨hb, hf, _, rfl⟩ := get_eq_ok.mp h
  obtain ⟨hb', hf', _, rfl⟩ := get_eq_ok.mp h'
  cases hb.symm.trans hb'
  cases hf.symm.trans hf'
  exact ⟨rfl, rfl, rfl⟩

theorem get_empty (b : Bytes) (k : Key) (id : Nat) : Upl.empty.get b k id = .err .NoSuchUpload := rfl

/-- what an operation on an existing upload does to the bookkeeping: nothing, or it replaces that of
    one bucket by a `set` (other slots, all else the same) or a `remove` of the upload `get` found -/
inductive Chg (u : Upl) : Upl → Prop
  | same : Chg u u
  | set {b : Bytes} {k : Key} {id : Nat} {bu : BUps} {m : MPU} (h : u.get b k id = .ok (bu, m)) (parts : List (Option Part)) :
      Chg u (u.withBucket b (bu.set { m with parts := parts }))
  | remove {b : Bytes} {k : Key} {id : Nat} {bu : BUps} {m : MPU} (h : u.get b k id = .ok (bu, m)) :
      Chg u (u.withBucket b (bu.remove m))

theorem create_fst (u : Upl) (b : Bytes) (k : Key) (md : Meta) :
    (u.create b k md).1 =
      u.withBucket b (((SMap.find u.buckets b).getD ⟨[], []⟩).add ⟨u.nextId + 1, b, k, md, []⟩) (u.nextId + 1) := rfl

theorem uploadPart_cases (md5 : Bytes → Bytes) (u : Upl) (b : Bytes) (k : Key) (id n : Nat) (d : Int) (body : Bytes) :
    (∃ bu m, u.get b k id = .ok (bu, m) ∧ n ≤ MaxUploadPartNumber ∧ (body.length : Int) = d ∧
      u.uploadPart md5 b k id n d body =
        (u.withBucket b (bu.set { m with parts := setPart m.parts n ⟨body, md5 body⟩ }), .ok (md5 body))) ∨
    ((MaxUploadPartNumber < n ∨ (body.length : Int) ≠ d ∨ u.get b k id = .err .NoSuchUpload) ∧
      ∃ c, u.uploadPart md5 b k id n d body = (u, .err c)) := by
  unfold uploadPart
  by_cases hn : n > MaxUploadPartNumber
  · exact .inr ⟨.inl hn, _, if_pos hn⟩
  · rw [if_neg hn]
    by_cases hd : (body.length : Int) ≠ d
    · exact .inr ⟨.inr (.inl hd), _, if_pos hd⟩
    · rw [if_neg hd]
      rcases get_cases u b k id with ⟨bu, m, hg⟩ | hg <;> rw [hg]
      · exact .inl ⟨bu, m, rfl, Nat.le_of_not_lt hn, Decidable.of_not_not hd, rfl⟩
      · exact .inr ⟨.inr (.inr rfl), _, rfl⟩

theorem abort_cases (u : Upl) (b : Bytes) (k : Key) (id : Nat) :
    (∃ bu m, u.get b k id = .ok (bu, m) ∧ u.abort b k id = (u.withBucket b (bu.remove m), .ok ())) ∨
    (u.get b k id = .err .NoSuchUpload ∧ u.abort b k id = (u, .err .NoSuchUpload)) := by
  unfold abort
  rcases get_cases u b k id with ⟨bu, m, hg⟩ | hg
  · exact .inl ⟨bu, m, hg, by rw [hg]⟩
  · exact .inr ⟨hg, by rw [hg]⟩

/-- the clamp of the marker is immaterial: past the end both sides are the loop over no slots -/
theorem listParts_of_get {u : Upl} {b : Bytes} {k : Key} {id : Nat} {bu : BUps} {m : MPU} (hg : u.get b k id = .ok (bu, m))
    (marker : Nat) (limit : Int) :
    u.listParts b k id marker limit = .ok (listPartsLoop limit (m.parts.drop marker) marker 0 []) := by
  simp only [listParts, hg]
  split
  · next h => rw [List.drop_length, List.drop_eq_nil_of_le (Nat.le_of_lt h)]; rfl
  · rfl

theorem checkParts_noPanic (parts : List (Option Part)) (listed : List (Int × Bytes)) :
    (checkParts parts listed).isPanic = false := by
  induction listed with
  | nil => rfl
  | cons q rest ih =>
    obtain ⟨n, etag⟩ := q
    unfold checkParts
    refine Res.guard_noPanic ?_
    split
    · refine Res.guard_noPanic ?_
      obtain ⟨ps, e⟩ | ⟨c, e⟩ := Res.ok_or_err ih <;> rw [e] <;> rfl
    · rfl

theorem validate_noPanic (m : MPU) (listed : List (Int × Bytes)) : (validate m listed).isPanic = false :=
  Res.guard_noPanic (Res.guard_noPanic (checkParts_noPanic ..))

section
variable {md5 : Bytes → Bytes} {u : Upl} {mem : Mem} {b : Bytes} {k : Key} {id : Nat} {listed : List (Int × Bytes)} {bu : BUps} {m : MPU}

theorem complete_of_validate_err {c : ErrCode} (hg : u.get b k id = .ok (bu, m)) (hv : validate m listed = .err c) :
    u.complete md5 mem b k id listed = (u, mem, .err c) := by
  simp only [complete, hg, hv]

theorem complete_of_put_ok {ps : List Part} {mem' : Mem} {vid : Option Nat} (hg : u.get b k id = .ok (bu, m))
    (hv : validate m listed = .ok ps) (hp : mem.put md5 b k m.md (ps.map (·.body)).flatten = (mem', .ok vid)) :
    u.complete md5 mem b k id listed = (u.withBucket b (bu.remove m), mem', .ok (vid, mpEtag md5 ps)) := by
  simp only [complete, hg, hv, hp]

end

theorem complete_cases (md5 : Bytes → Bytes) (u : Upl) (mem : Mem) (b : Bytes) (k : Key) (id : Nat) (listed : List (Int × Bytes)) :
    (∃ bu m ps mem' vid, u.get b k id = .ok (bu, m) ∧ validate m listed = .ok ps ∧
      mem.put md5 b k m.md (ps.map (·.body)).flatten = (mem', .ok vid) ∧
      u.complete md5 mem b k id listed = (u.withBucket b (bu.remove m), mem', .ok (vid, mpEtag md5 ps))) ∨
    ∃ c, u.complete md5 mem b k id listed = (u, mem, .err c) := by
  rcases get_cases u b k id with ⟨bu, m, hg⟩ | hg
  · rcases Res.ok_or_err (validate_noPanic m listed) with ⟨ps, hv⟩ | ⟨c, hv⟩
    · rcases Res.pair_ok_or_err (Mem.put_noPanic md5 mem b k m.md (ps.map (·.body)).flatten) with ⟨vid, hp⟩ | ⟨c, hp⟩
      · exact .inl ⟨bu, m, ps, _, vid, hg, hv, hp, complete_of_put_ok hg hv hp⟩
      · exact .inr ⟨c, by simp only [complete, hg, hv]; rw [hp, Mem.put_err_unchanged hp]⟩
    · exact .inr ⟨c, complete_of_validate_err hg hv⟩
  · exact .inr ⟨.NoSuchUpload, by simp only [complete, hg]⟩

theorem uploadPart_chg (md5 : Bytes → Bytes) (u : Upl) (b : Bytes) (k : Key) (id n : Nat) (d : Int) (body : Bytes) :
    Chg u (u.uploadPart md5 b k id n d body).1 := by
  rcases uploadPart_cases md5 u b k id n d body with ⟨bu, m, hg, _, _, h⟩ | ⟨_, c, h⟩ <;> rw [h]
  · exact .set hg _
  · exact .same

theorem abort_chg (u : Upl) (b : Bytes) (k : Key) (id : Nat) : Chg u (u.abort b k id).1 := by
  rcases abort_cases u b k id with ⟨bu, m, hg, h⟩ | ⟨_, h⟩ <;> rw [h]
  · exact .remove hg
  · exact .same

theorem complete_chg (md5 : Bytes → Bytes) (u : Upl) (mem : Mem) (b : Bytes) (k : Key) (id : Nat) (listed : List (Int × Bytes)) :
    Chg u (u.complete md5 mem b k id listed).1 := by
  rcases complete_cases md5 u mem b k id listed with ⟨bu, m, ps, mem', vid, hg, _, _, h⟩ | ⟨c, h⟩ <;> rw [h]
  · exact .remove hg
  · exact .same

section NoPanic
variable (u : Upl) (b : Bytes) (k : Key) (id : Nat)

theorem get_noPanic : (u.get b k id).isPanic = false := by
  rcases get_cases u b k id with ⟨bu, m, h⟩ | h <;> rw [h] <;> rfl

theorem uploadPart_noPanic (md5 : Bytes → Bytes) (n : Nat) (declared : Int) (body : Bytes) :
    (u.uploadPart md5 b k id n declared body).2.isPanic = false := by
  rcases uploadPart_cases md5 u b k id n declared body with ⟨bu, m, _, _, _, h⟩ | ⟨_, c, h⟩ <;> rw [h] <;> rfl

theorem abort_noPanic : (u.abort b k id).2.isPanic = false := by
  rcases abort_cases u b k id with ⟨bu, m, _, h⟩ | ⟨_, h⟩ <;> rw [h] <;> rfl

theorem complete_noPanic (md5 : Bytes → Bytes) (mem : Mem) (listed : List (Int × Bytes)) :
    (u.complete md5 mem b k id listed).2.2.isPanic = false := by
  rcases complete_cases md5 u mem b k id listed with ⟨bu, m, ps, mem', vid, _, _, _, h⟩ | ⟨c, h⟩ <;> rw [h] <;> rfl

theorem listParts_noPanic (marker : Nat) (limit : Int) : (u.listParts b k id marker limit).isPanic = false := by
  unfold listParts
  rcases get_cases u b k id with ⟨bu, m, h⟩ | h <;> rw [h] <;> rfl

theorem listUploads_noPanic (p : Prefix) (km : Bytes) (im : Option Nat) (limit : Int) :
    (u.listUploads b p km im limit).isPanic = false := by
  unfold listUploads; split <;> rfl

end NoPanic

end Upl
end GFS.Model

namespace GFS.Props.C14I
open GFS.Model GFS.Model.Upl

/-- the operations on the server state that touch the multipart bookkeeping (and any change of the store) -/
inductive Op where
  | initiate (b : Bytes) (k : Key) (md : Meta)
  | part (b : Bytes) (k : Key) (id n : Nat) (declared : Int) (body : Bytes)
  | abort (b : Bytes) (k : Key) (id : Nat)
  | complete (b : Bytes) (k : Key) (id : Nat) (listed : List (Int × Bytes))
  | store (m : Mem)

def step (md5 : Bytes → Bytes) (s : Srv) : Op → Srv
  | .initiate b k md => ⟨s.mem, (s.upl.create b k md).1⟩
  | .part b k id n d body => ⟨s.mem, (uploadPart md5 s.upl b k id n d body).1⟩
  | .abort b k id => ⟨s.mem, (s.upl.abort b k id).1⟩
  | .complete b k id listed => ⟨(s.upl.complete md5 s.mem b k id listed).2.1, (s.upl.complete md5 s.mem b k id listed).1⟩
  | .store m => ⟨m, s.upl⟩

end GFS.Props.C14I

namespace GFS.Props.C14L

def isOk {α} : Res α → Bool
  | .ok _ => true
  | _ => false

end GFS.Props.C14L

namespace GFS.Model
open GFS.Model.Upl GFS.Props.C14I

/-- `P` says that the bookkeeping of every bucket satisfies `I` at the counter's value, by lookup or by
    membership (`find`, `insert`), and `I` is kept by what a request does to the bookkeeping of one bucket: `add`
    of an upload with the next id, under a key that `A` admits, `set` and `remove` of an upload it holds.
    Such a `P` is kept by every request and every run. -/
structure UplInv (I : Bytes → Nat → BUps → Prop) (A : Key → Prop) (P : Upl → Prop) : Prop where
  find   : ∀ {u b bu}, P u → SMap.find u.buckets b = some bu → I b u.nextId bu
  insert : ∀ {u b bu N}, P u → u.nextId ≤ N → I b N bu → P ⟨SMap.insert u.buckets b bu, N⟩
  fresh  : ∀ b N, I b N ⟨[], []⟩
  add    : ∀ {b N bu} (k : Key) (md : Meta), A k → I b N bu → I b (N + 1) (bu.add ⟨N + 1, b, k, md, []⟩)
  set    : ∀ {N bu id m} b (parts : List (Option Part)), bu.find id = some m → I b N bu →
    I b N (bu.set { m with parts := parts })
  remove : ∀ {N bu id m} b, bu.find id = some m → I b N bu → I b N (bu.remove m)

namespace UplInv
variable {I : Bytes → Nat → BUps → Prop} {A : Key → Prop} {P : Upl → Prop}

theorem getD (hI : UplInv I A P) {u : Upl} (h : P u) (b : Bytes) : I b u.nextId ((SMap.find u.buckets b).getD ⟨[], []⟩) := by
  cases hf : SMap.find u.buckets b with
  | none => exact hI.fresh ..
  | some bu => exact hI.find h hf

theorem create (hI : UplInv I A P) {u : Upl} (h : P u) (b : Bytes) {k : Key} (md : Meta) (hk : A k) : P (u.create b k md).1 :=
  hI.insert h (Nat.le_succ _) (hI.add k md hk (hI.getD h b))

theorem chg (hI : UplInv I A P) {u u' : Upl} (c : Chg u u') (h : P u) : P u' := by
  cases c with
  | same => exact h
  | set hg parts =>
    obtain ⟨hb, hf, -⟩ := get_eq_ok.mp hg
    exact hI.insert h (Nat.le_refl _) (hI.set _ parts hf (hI.find h hb))
  | remove hg =>
    obtain ⟨hb, hf, -⟩ := get_eq_ok.mp hg
    exact hI.insert h (Nat.le_refl _) (hI.remove _ hf (hI.find h hb))

/-- `hop`: an initiate names a key that `A` admits; an `A` that admits every key needs no argument -/
theorem step (hI : UplInv I A P) (md5 : Bytes → Bytes) {s : Srv} {op : Op} (h : P s.upl)
    (hop : ∀ b k md, op = .initiate b k md → A k := by exact fun _ _ _ _ => trivial) :
    P (Props.C14I.step md5 s op).upl := by
  cases op with
  | initiate b k md => exact hI.create h b md (hop b k md rfl)
  | part b k id n d body => exact hI.chg (uploadPart_chg md5 s.upl b k id n d body) h
  | abort b k id => exact hI.chg (abort_chg s.upl b k id) h
  | complete b k id listed => exact hI.chg (complete_chg md5 s.upl s.mem b k id listed) h
  | store m => exact h

theorem run (hI : UplInv I A P) (md5 : Bytes → Bytes) (ops : List Op) {s : Srv} (h : P s.upl)
    (hops : ∀ op ∈ ops, ∀ b k md, op = .initiate b k md → A k := by exact fun _ _ _ _ _ _ => trivial) :
    P (ops.foldl (Props.C14I.step md5) s).upl :=
  Fold.foldl_inv (P := fun s => P s.upl) ops s (fun _ op hop h => hI.step md5 h (hops op hop)) h

end UplInv
end GFS.Model
