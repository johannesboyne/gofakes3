/- General facts about lists that core does not have. -/

namespace List

theorem filterMap_congr' {α β : Type} {f g : α → Option β} {l : List α} (h : ∀ x ∈ l, f x = g x) :
    l.filterMap f = l.filterMap g := by
  induction l with
  | nil => rfl
  | cons a as ih =>
    rw [filterMap_cons, filterMap_cons, h a mem_cons_self, ih fun x hx => h x (mem_cons_of_mem _ hx)]

theorem find?_congr' {α : Type} {p q : α → Bool} {l : List α} (h : ∀ x ∈ l, p x = q x) : l.find? p = l.find? q := by
  induction l with
  | nil => rfl
  | cons a rest ih =>
    rw [find?_cons, find?_cons, h a mem_cons_self, ih fun x hx => h x (mem_cons_of_mem _ hx)]

theorem find?_reverse_of_unique {α : Type} (p : α → Bool) (l : List α)
    (hu : ∀ x ∈ l, ∀ y ∈ l, p x = true → p y = true → x = y) : l.reverse.find? p = l.find? p := by
  cases h1 : l.find? p with
  | none =>
    rw [find?_eq_none] at h1 ⊢
    exact fun x hx => h1 x (mem_reverse.mp hx)
  | some x =>
    cases h2 : l.reverse.find? p with
    | none => exact absurd (find?_some h1) (by simpa using find?_eq_none.mp h2 x (mem_reverse.mpr (mem_of_find?_eq_some h1)))
    | some y =>
      rw [hu x (mem_of_find?_eq_some h1) y (mem_reverse.mp (mem_of_find?_eq_some h2)) (find?_some h1) (find?_some h2)]

theorem inj_on_of_nodup_map {α β : Type} (f : α → β) (l : List α) (h : (l.map f).Nodup) :
    ∀ x ∈ l, ∀ y ∈ l, f x = f y → x = y := by
  induction l with
  | nil => intro x hx; cases hx
  | cons a rest ih =>
    rw [map_cons, nodup_cons] at h
    intro x hx y hy e
    rcases mem_cons.mp hx with rfl | hx' <;> rcases mem_cons.mp hy with rfl | hy'
    · rfl
    · exact absurd (mem_map.mpr ⟨y, hy', e.symm⟩) h.1
    · exact absurd (mem_map.mpr ⟨x, hx', e⟩) h.1
    · exact ih h.2 x hx' y hy' e

end List
