/-
  What every step keeps, the run keeps.  A run is either a `List.foldl` of a step function, or a
  recursive function of the shape `run s (a :: as) = ((run s' as).1, o :: (run s' as).2)` with
  `(s', o) = step s a`; the development defines several of the latter, each under its own name, so
  the lemmas about them take the two defining equations as hypotheses (both hold by `rfl`).
-/
namespace GFS.Fold
variable {σ τ ι ο : Type}

theorem foldl_rel {R : σ → τ → Prop} {f : σ → ι → σ} {g : τ → ι → τ} :
    ∀ (l : List ι) (s : σ) (t : τ), (∀ s t, ∀ a ∈ l, R s t → R (f s a) (g t a)) → R s t →
      R (l.foldl f s) (l.foldl g t)
  | [], _, _, _, h => h
  | a :: l, s, t, hf, h =>
    foldl_rel l (f s a) (g t a) (fun s t b hb => hf s t b (List.mem_cons_of_mem _ hb))
      (hf s t a (List.mem_cons_self ..) h)

theorem foldl_inv {P : σ → Prop} {f : σ → ι → σ} (l : List ι) (s : σ)
    (hf : ∀ s, ∀ a ∈ l, P s → P (f s a)) (h : P s) : P (l.foldl f s) :=
  foldl_rel (R := fun s (_ : Unit) => P s) (g := fun _ _ => ()) l s () (fun s _ => hf s) h

/-- run a machine whose step answers: the final state and the answers in order (the shape of
    `Spec.S3.run` and of every `*Run` of the backends, which unfold to it) -/
def trace (f : σ → ι → σ × ο) (s : σ) (l : List ι) : σ × List ο :=
  l.foldl (fun a i => ((f a.1 i).1, a.2 ++ [(f a.1 i).2])) (s, [])

theorem trace_sim {R : σ → τ → Prop} {f : σ → ι → σ × ο} {g : τ → ι → τ × ο} (l : List ι) (s : σ) (t : τ)
    (hf : ∀ s t, ∀ a ∈ l, R s t → R (f s a).1 (g t a).1 ∧ (f s a).2 = (g t a).2) (h : R s t) :
    R (trace f s l).1 (trace g t l).1 ∧ (trace f s l).2 = (trace g t l).2 :=
  foldl_rel (R := fun (x : σ × List ο) (y : τ × List ο) => R x.1 y.1 ∧ x.2 = y.2) l (s, []) (t, [])
    (fun x y a ha hxy => ⟨(hf x.1 y.1 a ha hxy.1).1, by rw [hxy.2, (hf x.1 y.1 a ha hxy.1).2]⟩) ⟨h, rfl⟩

theorem trace_inv {P : σ → Prop} {f : σ → ι → σ × ο} (l : List ι) (s : σ)
    (hf : ∀ s, ∀ a ∈ l, P s → P (f s a).1) (h : P s) : P (trace f s l).1 :=
  foldl_inv (P := fun (x : σ × List ο) => P x.1) l (s, []) (fun x a ha => hf x.1 a ha) h

theorem trace_refines {Inv : σ → Prop} {abs : σ → τ} {f : σ → ι → σ × ο} {g : τ → ι → τ × ο} (l : List ι) (s : σ)
    (hf : ∀ s, ∀ a ∈ l, Inv s → Inv (f s a).1 ∧ abs (f s a).1 = (g (abs s) a).1 ∧ (f s a).2 = (g (abs s) a).2)
    (h : Inv s) :
    Inv (trace f s l).1 ∧ abs (trace f s l).1 = (trace g (abs s) l).1 ∧ (trace f s l).2 = (trace g (abs s) l).2 :=
  have := trace_sim (R := fun s t => Inv s ∧ abs s = t) (g := g) l s (abs s)
    (fun s t a ha hst => by
      obtain ⟨hs, rfl⟩ := hst
      obtain ⟨h1, h2, h3⟩ := hf s a ha hs
      exact ⟨⟨h1, h2⟩, h3⟩) ⟨h, rfl⟩
  ⟨this.1.1, this.1.2, this.2⟩

theorem run_inv {step : σ → ι → σ × ο} {run : σ → List ι → σ × List ο}
    (hnil : ∀ s, run s [] = (s, []))
    (hcons : ∀ s a as, run s (a :: as) = ((run (step s a).1 as).1, (step s a).2 :: (run (step s a).1 as).2))
    {I : σ → Prop} {Q : ο → Prop} (h : ∀ s a, I s → I (step s a).1 ∧ Q (step s a).2) :
    ∀ (as : List ι) (s : σ), I s → I (run s as).1 ∧ ∀ o ∈ (run s as).2, Q o := by
  intro as
  induction as with
  | nil => intro s hs; rw [hnil]; exact ⟨hs, List.forall_mem_nil _⟩
  | cons a as ih =>
    intro s hs
    obtain ⟨h1, h2⟩ := h s a hs
    obtain ⟨g1, g2⟩ := ih _ h1
    rw [hcons]
    exact ⟨g1, List.forall_mem_cons.mpr ⟨h2, g2⟩⟩

theorem run_sim {step₁ : σ → ι → σ × ο} {step₂ : τ → ι → τ × ο}
    {run₁ : σ → List ι → σ × List ο} {run₂ : τ → List ι → τ × List ο}
    (hnil₁ : ∀ s, run₁ s [] = (s, []))
    (hcons₁ : ∀ s a as, run₁ s (a :: as) = ((run₁ (step₁ s a).1 as).1, (step₁ s a).2 :: (run₁ (step₁ s a).1 as).2))
    (hnil₂ : ∀ s, run₂ s [] = (s, []))
    (hcons₂ : ∀ s a as, run₂ s (a :: as) = ((run₂ (step₂ s a).1 as).1, (step₂ s a).2 :: (run₂ (step₂ s a).1 as).2))
    {R : σ → τ → Prop} (h : ∀ s t a, R s t → R (step₁ s a).1 (step₂ t a).1 ∧ (step₁ s a).2 = (step₂ t a).2) :
    ∀ (as : List ι) (s : σ) (t : τ), R s t → (run₁ s as).2 = (run₂ t as).2 ∧ R (run₁ s as).1 (run₂ t as).1 := by
  intro as
  induction as with
  | nil => intro s t hr; rw [hnil₁, hnil₂]; exact ⟨rfl, hr⟩
  | cons a as ih =>
    intro s t hr
    obtain ⟨h1, h2⟩ := h s t a hr
    obtain ⟨g1, g2⟩ := ih _ _ h1
    rw [hcons₁, hcons₂, h2, g1]
    exact ⟨rfl, g2⟩

end GFS.Fold
