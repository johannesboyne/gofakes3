import GFS.Model.FsBackend
import GFS.Lemmas.BytesLemmas
/-
  `Fs.keyPath` (s3afero's `validKey`): an accepted key is the '/'-join of its path, so keys and
  paths determine each other; a GET reads the file at the key's path.  At the end `lastIndexOf`
  (`strings.LastIndexByte`, by which the ReadDir listing splits a prefix into directory and name part).
-/
namespace GFS.Model.Fs
open GFS.Bytes

/-- the segments of a key that is a clean relative path -/
def GoodSeg (s : Bytes) : Prop := s ≠ [] ∧ s ≠ [46] ∧ s ≠ [46, 46] ∧ (47 : UInt8) ∉ s

theorem keyPath_segs {k : Bytes} {p : Path} (h : keyPath k = some p) : p = splitOn1 47 k ∧ ∀ s ∈ p, GoodSeg s := by
  simp only [keyPath, Option.ite_none_left_eq_some, Option.ite_none_right_eq_some, Option.some.injEq] at h
  obtain ⟨_, ha, rfl⟩ := h
  refine ⟨rfl, fun s hs => ?_⟩
  have := List.all_eq_true.mp ha s hs
  simp only [Bool.and_eq_true, bne_iff_ne] at this
  exact ⟨fun e => by simp [e] at this, this.1.2, this.2, splitOn1_no_sep 47 k s hs⟩

theorem keyPath_eq {k : Bytes} {p : Path} (h : keyPath k = some p) : p = splitOn1 47 k := (keyPath_segs h).1

theorem keyPath_inj {k k' : Bytes} {p : Path} (h : keyPath k = some p) (h' : keyPath k' = some p) : k = k' := by
  rw [← join_split 47 k, ← join_split 47 k', ← keyPath_eq h, ← keyPath_eq h']

theorem keyPath_ne_nil {k : Bytes} {p : Path} (h : keyPath k = some p) : p ≠ [] := by
  rw [keyPath_eq h]
  exact splitOn1_ne_nil 47 k

theorem keyPath_join {k : Bytes} {p : Path} (h : keyPath k = some p) : join1 47 p = k := by
  rw [keyPath_eq h, join_split]

theorem keyPath_head {k : Bytes} {p : Path} (h : keyPath k = some p) : k.head? ≠ some 47 := by
  obtain ⟨hp, hg⟩ := keyPath_segs h
  obtain ⟨l, ls, hs⟩ := List.exists_cons_of_ne_nil (splitOn1_ne_nil 47 k)
  obtain ⟨hne, _, _, hno⟩ := hg l (by rw [hp, hs]; exact List.mem_cons_self)
  rw [head?_eq_of_splitOn1 hs hne]
  exact fun e => hno (List.mem_of_mem_head? e)

theorem keyPath_last {k : Bytes} {p : Path} (h : keyPath k = some p) : k.getLast? ≠ some 47 := by
  obtain ⟨hp, hg⟩ := keyPath_segs h
  obtain ⟨A, l, hP⟩ := exists_splitOn1_concat 47 k
  obtain ⟨hne, _, _, hno⟩ := hg l (by rw [hp, hP]; simp)
  rw [getLast?_eq_of_splitOn1 hP hne]
  exact fun e => hno (List.mem_of_getLast? e)

theorem getKey_some {t : Tree} {k : Bytes} {p : Path} (h : keyPath k = some p) : getKey t k = content t p := by
  simp only [getKey, h]

theorem getKey_none {t : Tree} {k : Bytes} (h : keyPath k = none) : getKey t k = none := by
  simp only [getKey, h]

theorem getKey_of_files_nil {t : Tree} (hf : t.files = []) (k : Bytes) : getKey t k = none := by
  unfold getKey; cases keyPath k <;> simp [content, hf]

end GFS.Model.Fs

namespace GFS.Model.FsB

theorem lastIndexOf_spec (c : UInt8) (s : Bytes) :
    (lastIndexOf c s = none ∧ c ∉ s) ∨ ∃ a b, lastIndexOf c s = some a.length ∧ s = a ++ c :: b ∧ c ∉ b := by
  induction s with
  | nil => exact .inl ⟨rfl, List.not_mem_nil⟩
  | cons x xs ih =>
    unfold lastIndexOf
    rcases ih with ⟨hn, hni⟩ | ⟨a, b, hs, rfl, hb⟩
    · rw [hn]
      by_cases hx : x = c
      · exact .inr ⟨[], xs, by simp [hx], by rw [hx]; rfl, hni⟩
      · exact .inl ⟨by simp [hx], by simp [hni, Ne.symm hx]⟩
    · exact .inr ⟨x :: a, b, by rw [hs]; rfl, rfl, hb⟩

end GFS.Model.FsB
