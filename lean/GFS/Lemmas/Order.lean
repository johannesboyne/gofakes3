import GFS.Base.SMap
import GFS.Lemmas.SMapLemmas
/- Go's string `<` on byte strings is the lexicographic order of `List UInt8`, hence a strict total
   order; `SMap.insert`/`erase` keep a map sorted; the seeks a listing's marker performs on a sorted
   map (`filter_from_key`, `filter_after_key`, `filter_lt_suffix`, `sorted_tail_ne`). -/
namespace GFS.Bytes

theorem lt_iff (a b : Bytes) : lt a b = true ↔ a < b := by
  induction a generalizing b with
  | nil => cases b <;> simp [lt]
  | cons x xs ih =>
    cases b with
    | nil => simp [lt]
    | cons y ys =>
      rw [lt, List.cons_lt_cons_iff, ← ih]
      by_cases h1 : x < y
      · simp [h1]
      · by_cases h2 : y < x
        · have : x ≠ y := fun e => h1 (e ▸ h2)
          simp [h2, this]
        · simp [UInt8.le_antisymm (UInt8.not_lt.mp h2) (UInt8.not_lt.mp h1)]

theorem lt_irrefl (a : Bytes) : lt a a = false :=
  Bool.eq_false_iff.mpr fun h => List.lt_irrefl a ((lt_iff a a).mp h)

theorem lt_asymm {a b : Bytes} (h : lt a b = true) : lt b a = false :=
  Bool.eq_false_iff.mpr fun h' => List.lt_asymm ((lt_iff a b).mp h) ((lt_iff b a).mp h')

theorem lt_trans {a b c : Bytes} (h1 : lt a b = true) (h2 : lt b c = true) : lt a c = true :=
  (lt_iff a c).mpr (List.lt_trans ((lt_iff a b).mp h1) ((lt_iff b c).mp h2))

theorem lt_total {a b : Bytes} (hne : a ≠ b) (h : lt a b = false) : lt b a = true :=
  (lt_iff b a).mpr <|
    (List.le_iff_lt_or_eq.mp fun h' => by simp [(lt_iff a b).mpr h'] at h).resolve_right (Ne.symm hne)

end GFS.Bytes

namespace GFS.SMap
open GFS.Bytes
variable {α : Type}

/-- strictly ascending keys -/
def Sorted (m : SMap α) : Prop := m.Pairwise (fun a b => lt a.1 b.1 = true)

theorem sorted_nil : Sorted ([] : SMap α) := List.Pairwise.nil

theorem sorted_erase {m : SMap α} {k : Bytes} (h : Sorted m) : Sorted (erase m k) :=
  List.Pairwise.filter _ h

theorem sorted_insert {m : SMap α} {k : Bytes} {v : α} (h : Sorted m) : Sorted (insert m k v) := by
  fun_induction insert m k v with
  | case1 => simp [Sorted]
  | case2 k' v' rest he => cases beq_iff_eq.mp he; exact List.pairwise_cons.mpr (List.pairwise_cons.mp h)
  | case3 k' v' rest he hl =>
    refine List.pairwise_cons.mpr ⟨fun q hq => ?_, h⟩
    rcases List.mem_cons.mp hq with rfl | hq
    · exact hl
    · exact lt_trans hl ((List.pairwise_cons.mp h).1 q hq)
  | case4 k' v' rest he hl ih =>
    obtain ⟨hk', hr⟩ := List.pairwise_cons.mp h
    have hgt : lt k' k = true := lt_total (fun e => he (by simp [e])) (by simpa using hl)
    exact List.pairwise_cons.mpr
      ⟨fun q hq => (GFS.SMapL.mem_insert hq).elim (· ▸ hgt) (hk' q), ih hr⟩

/-- the inclusive seek `key ≥ k` on a sorted map that holds `k`: the entries from `k` on -/
theorem filter_from_key {pre rest : SMap α} {k : Bytes} {v : α} (hs : Sorted (pre ++ (k, v) :: rest)) :
    (pre ++ (k, v) :: rest).filter (fun q => !lt q.1 k) = (k, v) :: rest := by
  obtain ⟨_, h2, h3⟩ := List.pairwise_append.mp hs
  rw [List.filter_append, List.filter_eq_nil_iff.mpr, List.filter_eq_self.mpr, List.nil_append]
  · intro q hq
    rcases List.mem_cons.mp hq with rfl | hq
    · simp [lt_irrefl]
    · simp [lt_asymm ((List.pairwise_cons.mp h2).1 q hq)]
  · intro q hq
    simp [h3 q hq (k, v) (by simp)]

theorem filter_after_key {pre rest : SMap α} {k : Bytes} {v : α} (hs : Sorted (pre ++ (k, v) :: rest)) :
    (pre ++ (k, v) :: rest).filter (fun q => lt k q.1) = rest := by
  obtain ⟨_, h2, h3⟩ := List.pairwise_append.mp hs
  rw [List.filter_append, List.filter_eq_nil_iff.mpr, List.filter_cons, lt_irrefl, List.filter_eq_self.mpr]
  · rfl
  · exact (List.pairwise_cons.mp h2).1
  · intro q hq
    simp [lt_asymm (h3 q hq (k, v) (by simp))]

theorem filter_lt_suffix (m : Bytes) (L : SMap α) (hs : Sorted L) :
    ∃ pre, L = pre ++ L.filter (fun q => lt m q.1) := by
  induction L with
  | nil => exact ⟨[], rfl⟩
  | cons q rest ih =>
    obtain ⟨hq, hr⟩ := List.pairwise_cons.mp hs
    by_cases h : lt m q.1 = true
    · refine ⟨[], ?_⟩
      simp only [List.nil_append, List.filter_cons, h, if_true]
      rw [List.filter_eq_self.mpr fun r hr' => lt_trans h (hq r hr')]
    · obtain ⟨pre, hp⟩ := ih hr
      refine ⟨q :: pre, ?_⟩
      simp only [List.filter_cons, h, Bool.false_eq_true, if_false, List.cons_append]
      rw [← hp]

theorem sorted_tail_ne {pre rest : SMap α} {k : Bytes} {v : α} (hs : Sorted (pre ++ (k, v) :: rest)) :
    ∀ q ∈ rest, q.1 ≠ k := by
  intro q hq heq
  have := (List.pairwise_cons.mp (List.pairwise_append.mp hs).2.1).1 q hq
  simp [heq, lt_irrefl] at this

end GFS.SMap
