/-
  A client's walk through a paged listing: ask for a page, continue from the marker it returns
  while it says "truncated".  Every listing of the model has such a walk (`fuel` bounds the
  number of requests); that it visits everything exactly once is one induction, done here.
-/
namespace GFS.Walk

/-- `w` is a walk with continuation states `σ` (markers) and pages `ρ`; `g : γ` is what the proof
    knows about a state (the part of the store still to be listed), `rem g` the items still due,
    `μ g` what bounds the requests left: it falls with every truncated page, so the walk makes at
    most `μ g + 1` requests.  `P` is whatever else `step` shows of each page (a bound on its size,
    say; `fun _ => True` if nothing): it then holds of every page of the walk. -/
theorem exact {σ ρ α γ : Type} (w : Nat → σ → List ρ) (trunc : ρ → Bool) (next : ρ → σ) (items : ρ → List α)
    (Inv : γ → σ → Prop) (rem : γ → List α) (μ : γ → Nat) (P : ρ → Prop)
    (step : ∀ g s, Inv g s → ∃ r, (∀ n, w (n + 1) s = if trunc r then r :: w n (next r) else [r]) ∧ P r ∧
      ((trunc r = false ∧ rem g = items r) ∨
       (trunc r = true ∧ ∃ g', Inv g' (next r) ∧ μ g' < μ g ∧ rem g = items r ++ rem g')))
    (fuel : Nat) (g : γ) (s : σ) (hI : Inv g s) (hμ : μ g < fuel) :
    (w fuel s).flatMap items = rem g ∧ (w fuel s).getLast?.map trunc = some false ∧
    (∀ r ∈ w fuel s, P r) ∧ (w fuel s).length ≤ μ g + 1 := by
  induction fuel generalizing g s with
  | zero => exact absurd hμ (Nat.not_lt_zero _)
  | succ n ih =>
    obtain ⟨r, hw, hP, hr⟩ := step g s hI
    rw [hw n]
    rcases hr with ⟨ht, hrem⟩ | ⟨ht, g', hI', hlt, hrem⟩
    · simp [hrem, ht, hP]
    · obtain ⟨i1, i2, i3, i4⟩ := ih g' (next r) hI' (Nat.lt_of_lt_of_le hlt (Nat.le_of_lt_succ hμ))
      rw [ht, if_pos rfl]
      refine ⟨by simp [i1, hrem], ?_, ?_, Nat.succ_le_succ (Nat.le_trans i4 hlt)⟩
      · cases hn : w n (next r) with
        | nil => simp [hn] at i2
        | cons a l => rw [List.getLast?_cons_cons, ← hn]; exact i2
      · intro r' hr'
        rcases List.mem_cons.mp hr' with rfl | hr'
        · exact hP
        · exact i3 r' hr'

end GFS.Walk
