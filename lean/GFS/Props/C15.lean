import GFS.Lemmas.Uploader
/-
  C15 — acknowledged state of the persistent backends survives restart.
  The model splits a server into the persistent part (buckets and objects: the bolt file, the
  object and metadata trees) and the volatile part (the in-memory multipart bookkeeping).
-/
namespace GFS.Props.C15
open GFS.Model

structure Server where
  mem : Mem      -- persistent
  upl : Upl      -- volatile
deriving Repr

/-- closing the server and starting a new one on the same storage -/
def reopen (s : Server) : Server := { mem := s.mem, upl := Upl.empty }

/-- **reopen_preserves_objects**: `reopen` keeps the store by definition — the modelling decision of
    this file: what was acknowledged is in the bolt file or the object and metadata trees, which the
    new process opens — so GET, HEAD, listing, bucket existence and bucket list after a restart equal
    those before it, by `rfl` -/
theorem reopen_preserves_objects (cfg : Cfg) (s : Server) (b : Bytes) (k : Key) (vid : Option Nat) (isHead : Bool)
    (p : Prefix) (hasMarker : Bool) (marker : Bytes) (mk : Int) (v2 : Bool) :
    Front.getObject cfg (reopen s).mem b k vid isHead = Front.getObject cfg s.mem b k vid isHead ∧
    Front.listBucket cfg (reopen s).mem b p hasMarker marker mk v2 = Front.listBucket cfg s.mem b p hasMarker marker mk v2 ∧
    Front.headBucket cfg (reopen s).mem b = Front.headBucket cfg s.mem b ∧
    Front.listBuckets (reopen s).mem = Front.listBuckets s.mem :=
  ⟨rfl, rfl, rfl, rfl⟩

/-- for the same reason (`rfl`) an object write after a restart gives what it would have given before it -/
theorem reopen_commutes_put (md5 : Bytes → Bytes) (cfg : Cfg) (s : Server) (b : Bytes) (k : Key) (md : Meta) (body : Bytes) :
    Front.putObject md5 cfg (reopen s).mem b k md body = Front.putObject md5 cfg s.mem b k md body := rfl

/-- **reopen_forgets_uploads**: pending multipart uploads are volatile: after a restart every
    upload id answers NoSuchUpload (the statement lists buckets, keys, bodies, sizes, ETags and
    metadata as what survives; pending uploads are not among them) -/
theorem reopen_forgets_uploads (s : Server) (b : Bytes) (k : Key) (id : Nat) :
    (reopen s).upl.get b k id = .err .NoSuchUpload :=
  Upl.get_empty b k id

example : (reopen ⟨(Mem.put id (Mem.createBucket Mem.empty [98]).1 [98] [107] [] [1, 2]).1, (Upl.create Upl.empty [98] [107] []).1⟩).mem.get [98] [107]
    = .ok ⟨1, false, [1, 2], [1, 2], []⟩ := by rfl

end GFS.Props.C15
