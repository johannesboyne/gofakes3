import GFS.Lemmas.MemOps
/-
  C10 — buckets and keys are independent namespaces.
  Frame theorems on the backend model: an operation addressed to (b,k) does not change what any
  other (b',k') returns.
-/
namespace GFS.Props.C10
open GFS.Model

/-- `bucket.rm` touches only the named key's entry, whatever the versioning state -/
theorem rm_find_other (bk : Bucket) (k k' : Key) (id : Nat) (h : k ≠ k') :
    SMap.find (bk.rm k id).1.objects k' = SMap.find bk.objects k' := by
  rw [Bucket.rm_eq]
  cases SMap.find bk.objects k with
  | none => rfl
  | some o => simp only; split <;> simp [Bucket.put_eq, Bucket.find_storeObj_ne h]

/-- **rmVersion_find_other**: deleting a specific version of k touches no other key -/
theorem rmVersion_find_other (bk : Bucket) (k k' : Key) (vid : Nat) (h : k ≠ k') :
    SMap.find (bk.rmVersion k vid).1.objects k' = SMap.find bk.objects k' := by
  rw [Bucket.rmVersion_eq_old]; exact Bucket.find_storeObj_ne h

theorem get_congr {m m' : Mem} {b' : Bytes} (h : SMap.find m'.buckets b' = SMap.find m.buckets b') (k' : Key) :
    m'.get b' k' = m.get b' k' := by
  simp only [Mem.get, Mem.current, h]

/-- rewriting bucket `b` in a way that leaves key `k'` of it alone changes no answer for `(b', k')` -/
theorem get_insert_bucket {m : Mem} {b b' : Bytes} {k' : Key} {bk bk' : Bucket} {n : Nat} (hb : SMap.find m.buckets b = some bk)
    (h : b = b' → SMap.find bk'.objects k' = SMap.find bk.objects k') :
    (⟨SMap.insert m.buckets b bk', n⟩ : Mem).get b' k' = m.get b' k' := by
  by_cases hbb : b = b'
  · subst hbb; simp only [Mem.get, Mem.current, SMap.find_insert_self, hb, h rfl]
  · exact get_congr (SMap.find_insert_ne hbb) k'

/-- **put_frame**: an upload to (b,k) changes no answer for any other (b',k') -/
theorem put_frame (md5 : Bytes → Bytes) (m : Mem) (b b' : Bytes) (k k' : Key) (md : Meta) (body : Bytes)
    (hne : b ≠ b' ∨ k ≠ k') :
    (m.put md5 b k md body).1.get b' k' = m.get b' k' := by
  unfold Mem.put Mem.putCommit
  cases hb : SMap.find m.buckets b with
  | none => rfl
  | some bk =>
    exact get_insert_bucket hb fun e => by rw [Bucket.put_eq]; exact Bucket.find_storeObj_ne (hne.resolve_left (absurd e))

/-- **delete_frame**: a delete of (b,k) — plain, or creating a delete marker — changes no answer
    for any other (b',k') -/
theorem delete_frame (m : Mem) (b b' : Bytes) (k k' : Key) (hne : b ≠ b' ∨ k ≠ k') :
    (m.delete b k).1.get b' k' = m.get b' k' := by
  unfold Mem.delete
  cases hb : SMap.find m.buckets b with
  | none => rfl
  | some bk => exact get_insert_bucket hb fun e => rm_find_other bk k k' _ (hne.resolve_left (absurd e))

/-- creating bucket `b` (and, below, deleting it) changes no answer for a key of another bucket -/
theorem createBucket_frame (m : Mem) (b b' : Bytes) (k' : Key) (h : b ≠ b') :
    (m.createBucket b).1.get b' k' = m.get b' k' := by
  unfold Mem.createBucket
  split
  · rfl
  · exact get_congr (SMap.find_insert_ne h) k'

theorem deleteBucket_frame (m : Mem) (b b' : Bytes) (k' : Key) (h : b ≠ b') :
    (m.deleteBucket b).1.get b' k' = m.get b' k' := by
  unfold Mem.deleteBucket
  cases SMap.find m.buckets b with
  | none => rfl
  | some bk =>
    simp only
    split
    · rfl
    · exact get_congr (SMap.find_erase_ne h) k'

/-- **keys_opaque**: keys that differ as byte strings name different objects: storing under one
    leaves the other exactly as it was, even when they differ by a single byte, a '.', a '..'
    segment or a trailing character — the store compares byte strings and nothing else -/
theorem keys_opaque (md5 : Bytes → Bytes) (m : Mem) (b : Bytes) (k k' : Key) (md : Meta) (body : Bytes) (h : k ≠ k') :
    (m.put md5 b k md body).1.get b k' = m.get b k' :=
  put_frame md5 m b b k k' md body (Or.inr h)

/-! Non-vacuity: "a/../b" and "b" are different keys. -/
example : ([97, 47, 46, 46, 47, 98] : Bytes) ≠ [98] := by decide +kernel

end GFS.Props.C10
