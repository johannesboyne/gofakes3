import GFS.Props.C05R
import GFS.Props.C13L
/-
  C13 over whole histories: what ListObjectVersions shows IS what the history of C05 leaves behind.
  Props/C13L relates the unpaginated listing to the store's versions, Props/C05R the store to the
  specification machine Spec.Versions after every allowed history.  Composed: the listing shows, key
  by key, the specification's entries (ids, delete-marker flags, sizes) in creation order, IsLatest
  on exactly the newest one, and no key the specification has emptied.
-/
namespace GFS.Props.C13R
open GFS.Model GFS.Props.C05R GFS.Props.C13I
open GFS.Spec.Versions (VBucket entriesOf)

/-- **listing_is_history**: in states related to the specification (every state an allowed history
    reaches, `C05R.versions_run_refines`), for every key: the store holds the key exactly when the
    specification has entries for it, the key's listed entries are the specification's in creation
    order, and exactly the last one is flagged IsLatest. -/
theorem listing_is_history (m : Mem) (b : Bytes) (vb : VBucket) (hm : MInv m) (hr : MRel m b vb) :
    ∃ bk, SMap.find m.buckets b = some bk ∧
      (∀ k, SMap.find bk.objects k = none → entriesOf vb k = []) ∧
      ∀ k o, SMap.find bk.objects k = some o →
        (o.allVersions.map (fun x => vproj x.1)) = (entriesOf vb k).map eproj ∧
        o.allVersions.map (·.2) = List.replicate o.versions.length false ++ [true] ∧
        entriesOf vb k ≠ [] := by
  obtain ⟨bk, hb, r⟩ := hr
  refine ⟨bk, hb, ?_, ?_⟩
  · exact fun k hk => by simpa only [ents, hk, List.map_nil, List.map_eq_nil_iff] using (r.same k).symm
  · intro k o ho
    obtain ⟨d, h1, _⟩ := objB_of_mInv hm hb k o ho
    have hs := r.same k
    simp only [ents, ho] at hs
    refine ⟨?_, C13.allVersions_flags o d h1, ?_⟩
    · rw [← hs, ← C13.allVersions_fst, List.map_map]; rfl
    · intro he
      rw [he, h1] at hs
      simp at hs

/-- the same after every allowed history (without its last conjunct, `entriesOf vb' k ≠ []`), together with
    the shape of the unpaginated listing -/
theorem versions_listing_after_history (md5 : Bytes → Bytes) (b : Bytes) (ops : List HOp) (m : Mem) (vb : VBucket)
    (hm : MInv m) (hr : MRel m b vb) (ha : Allowed md5 b m vb ops) (p : Prefix) :
    let m' := (run md5 b m vb ops).1
    let vb' := (run md5 b m vb ops).2
    ∃ bk, SMap.find m'.buckets b = some bk ∧
      m'.listVersions b p [] none 0 =
        .ok ⟨bk.objects.flatMap (C13L.entriesOfKey p (bk.versioning == .none)),
             C03G.addAll [] (bk.objects.filterMap (C13L.prefixOfKey p)), false, [], none⟩ ∧
      (∀ k, SMap.find bk.objects k = none → entriesOf vb' k = []) ∧
      ∀ k o, SMap.find bk.objects k = some o →
        (o.allVersions.map (fun x => vproj x.1)) = (entriesOf vb' k).map eproj ∧
        o.allVersions.map (·.2) = List.replicate o.versions.length false ++ [true] := by
  intro m' vb'
  obtain ⟨h1, h2⟩ := versions_run_refines md5 b ops m vb hm hr ha
  obtain ⟨bk, hb, hnone, hall⟩ := listing_is_history m' b vb' h1 h2
  exact ⟨bk, hb, C13L.listVersions_exact m' b bk hb p, hnone, fun k o ho => ⟨(hall k o ho).1, (hall k o ho).2.1⟩⟩

/-! Non-vacuity: the history of C05R's example; the listing of key "k" shows ids 2 and 4, 4 latest. -/
example : (Mem.listVersions (run id [98] C05R.exM ⟨.never, []⟩ C05R.exOps).1 [98] ⟨false, [], false, 0⟩ [] none 0) =
    .ok ⟨[⟨[107], some 2, false, false, 1, [2]⟩, ⟨[107], some 4, false, true, 1, [4]⟩], [], false, [], none⟩ := by decide +kernel

end GFS.Props.C13R
