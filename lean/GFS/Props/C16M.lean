import GFS.Props.C16
/-
  C16, the other direction of `matchBucket_sound`: with a list of host bases, a host that IS
  `<single label>.<base>` for ANY configured base is routed to that label's bucket — whatever the
  position of the base in the list and whatever other bases (parents, children, unrelated ones)
  stand before it.
-/
namespace GFS.Props.C16M
open GFS.Model GFS.Props.C16

/-- **matchBucket_complete**: for every list of bases, every base in it and every dot-free label,
    the host `<label>.<base>` is matched to `<label>` — a parent domain listed earlier (which
    leaves a remainder with a dot) or any other base does not stop the search. -/
theorem matchBucket_complete (bases : List Bytes) (base label : Bytes) (hb : base ∈ bases) (hdot : (46 : UInt8) ∉ label) :
    matchBucket bases (label ++ normBase base) = some label :=
  (matchBucket_eq_some_iff bases _ label).mpr ⟨base, hb, rfl, hdot⟩

/-- with bases configured, such a host is answered as the path-style request for the label's bucket -/
theorem base_host_eq_path (bases : List Bytes) (base label path : Bytes) (hb : base ∈ bases) (hdot : (46 : UInt8) ∉ label) :
    baseRewrite bases (label ++ normBase base) path = withBucket label path := by
  unfold baseRewrite
  rw [matchBucket_complete bases base label hb hdot]

/-! Non-vacuity: parent domain "ex" listed before the child "s3.ex": host "b.s3.ex" goes to bucket "b". -/
example : matchBucket [[101, 120], [115, 51, 46, 101, 120]] [98, 46, 115, 51, 46, 101, 120] = some [98] := by decide +kernel

end GFS.Props.C16M
