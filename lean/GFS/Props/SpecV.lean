import GFS.Spec.Versions
/-
  The specification machine Spec.Versions says what the statement of C05 says — checked clause by
  clause, so that "the store refines Spec.Versions" (Props/C05R) means what a reader of the
  property expects.  (A refinement of a wrong specification would prove nothing.)
-/
namespace GFS.Props.SpecV
open GFS.Spec.Versions

theorem entriesOf_setKey (vb : VBucket) (k k' : Bytes) (es : List VEntry) :
    entriesOf (setKey vb k es) k' = if k = k' then es else entriesOf vb k' := by
  unfold entriesOf setKey
  by_cases he : es.isEmpty = true
  · simp only [he, if_true, SMap.find_erase]
    split
    · rw [List.isEmpty_iff.mp he]; rfl
    · rfl
  · simp only [he, Bool.false_eq_true, if_false, SMap.find_insert]
    split <;> rfl

/-- "every upload gets a … version and every earlier version stays retrievable": while Enabled an
    upload appends its entry and keeps every entry of the key -/
theorem put_enabled_appends (vb : VBucket) (k : Bytes) (id : Nat) (body : Bytes) (h : vb.status = .enabled) :
    entriesOf (put vb k id body) k = entriesOf vb k ++ [⟨id, false, body, true⟩] := by
  simp [put, entriesOf_setKey, h]

/-- and touches no other key -/
theorem put_other_key (vb : VBucket) (k k' : Bytes) (id : Nat) (body : Bytes) (hk : k ≠ k') :
    entriesOf (put vb k id body) k' = entriesOf vb k' := by
  simp [put, entriesOf_setKey, hk]

/-- "a plain delete only adds a delete marker": while Enabled, for a key that has entries -/
theorem delete_enabled_adds_marker (vb : VBucket) (k : Bytes) (mid : Nat) (h : vb.status = .enabled) (hne : entriesOf vb k ≠ []) :
    entriesOf (delete vb k mid) k = entriesOf vb k ++ [⟨mid, true, [], true⟩] := by
  simp [delete, hne, h, entriesOf_setKey]

/-- "the key then reads as NoSuchKey while its versions remain" -/
theorem get_after_delete (vb : VBucket) (k : Bytes) (mid : Nat) (h : vb.status = .enabled) (hne : entriesOf vb k ≠ []) :
    Spec.Versions.get (delete vb k mid) k = .err .NoSuchKey := by
  unfold Spec.Versions.get newest
  rw [delete_enabled_adds_marker vb k mid h hne]
  simp

/-- "deleting a specific version removes just that version" -/
theorem deleteVersion_just_that (vb : VBucket) (k : Bytes) (id : Nat) :
    entriesOf (deleteVersion vb k id) k = (entriesOf vb k).filter (fun e => !(e.id == id)) := by
  simp [deleteVersion, entriesOf_setKey]

/-- "an unqualified read always serves the most recently created remaining version or NoSuchKey if
    that is a delete marker or nothing remains" -/
theorem get_is_newest (vb : VBucket) (k : Bytes) :
    Spec.Versions.get vb k = match (entriesOf vb k).getLast? with
      | none => .err .NoSuchKey
      | some e => if e.marker then .err .NoSuchKey else .ok e.body := rfl

/-- "Suspending versioning, and uploads or deletes made while it is suspended, never remove or
    alter versions created while it was enabled": the entries born while Enabled survive an upload
    and a plain delete in every status -/
theorem born_survive_put (vb : VBucket) (k : Bytes) (id : Nat) (body : Bytes) (e : VEntry)
    (he : e ∈ entriesOf vb k) (hb : e.born = true) : e ∈ entriesOf (put vb k id body) k := by
  unfold put
  rw [entriesOf_setKey, if_pos rfl]
  refine List.mem_append_left _ ?_
  split
  · exact he
  · exact List.mem_filter.mpr ⟨he, hb⟩

theorem born_survive_delete (vb : VBucket) (k : Bytes) (mid : Nat) (e : VEntry)
    (he : e ∈ entriesOf vb k) (hb : e.born = true) : e ∈ entriesOf (delete vb k mid) k := by
  simp only [delete]
  split
  · exact he
  · split
    · rw [entriesOf_setKey, if_pos rfl]; exact List.mem_append_left _ he
    · rw [entriesOf_setKey, if_pos rfl]; exact List.mem_filter.mpr ⟨he, hb⟩

/-- suspending (or re-enabling) changes no entry -/
theorem setStatus_keeps (vb : VBucket) (en : Bool) (k : Bytes) : entriesOf (setStatus vb en) k = entriesOf vb k := rfl

end GFS.Props.SpecV
