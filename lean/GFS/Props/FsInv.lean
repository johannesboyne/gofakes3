import GFS.Base.BEqUInt8
import GFS.Model.FsTree
import GFS.Lemmas.Fold
import GFS.Lemmas.Assoc
import GFS.Lemmas.ListLemmas
/-
  The directory tree an fs bucket keeps: after any sequence of uploads and deletes every proper
  ancestor of an object file is a directory, no object is a directory, no directory is empty (no
  leftovers of deleted keys), no object lies below another object — and an operation on one key
  leaves every other key's bytes alone.  (Conversely every directory is a proper ancestor of an
  object file: by induction from "no directory is empty", `FsR.dir_has_file`.)
-/
namespace GFS.Props.FsInv
open GFS.Model.Fs

/-- `a` is a proper, non-empty prefix of `p` -/
def IsAnc (a p : Path) : Prop := a ≠ [] ∧ ∃ t, t ≠ [] ∧ p = a ++ t

theorem mem_ancestors (p a : Path) : a ∈ ancestors p ↔ IsAnc a p := by
  induction p generalizing a with
  | nil => simp [ancestors, IsAnc]
  | cons s rest ih =>
    simp only [ancestors, List.mem_append, List.mem_map, ih]
    constructor
    · rintro (⟨b, ⟨_, t, ht, rfl⟩, rfl⟩ | h)
      · exact ⟨List.cons_ne_nil _ _, t, ht, rfl⟩
      · split at h
        · cases h
        · next hr =>
          rw [List.mem_singleton.mp h]
          exact ⟨List.cons_ne_nil _ _, rest, by simpa using hr, rfl⟩
    · rintro ⟨hne, t, ht, hp⟩
      obtain _ | ⟨a0, _ | ⟨a1, as⟩⟩ := a
      · exact absurd rfl hne
      · cases hp
        exact Or.inr (by simp [ht])
      · cases hp
        exact Or.inl ⟨a1 :: as, ⟨List.cons_ne_nil _ _, t, ht, rfl⟩, rfl⟩

theorem isAnc_trans {a b c : Path} (h1 : IsAnc a b) (h2 : IsAnc b c) : IsAnc a c := by
  obtain ⟨ha, t1, ht1, rfl⟩ := h1
  obtain ⟨_, t2, ht2, rfl⟩ := h2
  exact ⟨ha, t1 ++ t2, by simp [ht1], by simp [List.append_assoc]⟩

theorem isAnc_length {a p : Path} (h : IsAnc a p) : a.length < p.length := by
  obtain ⟨_, t, ht, rfl⟩ := h
  have := List.length_pos_iff.mpr ht
  rw [List.length_append]
  omega

theorem isAnc_ne {a p : Path} (h : IsAnc a p) : a ≠ p := fun e => Nat.lt_irrefl _ (e ▸ isAnc_length h)

theorem parent_isAnc {p : Path} (h : p.dropLast ≠ []) : IsAnc p.dropLast p := by
  have hp : p ≠ [] := by rintro rfl; exact h rfl
  exact ⟨h, [p.getLast hp], List.cons_ne_nil _ _, (List.dropLast_concat_getLast hp).symm⟩

theorem isAnc_parent (a p : Path) (h : IsAnc a p) : a = p.dropLast ∨ IsAnc a p.dropLast := by
  obtain ⟨ha, t, ht, rfl⟩ := h
  rw [List.dropLast_append_of_ne_nil ht]
  by_cases h1 : t.dropLast = []
  · left; simp [h1]
  · right; exact ⟨ha, t.dropLast, h1, rfl⟩

structure Inv (t : Tree) : Prop where
  filesNe : ∀ f ∈ t.files, f.1 ≠ []
  uniq : (t.files.map (·.1)).Nodup
  anc : ∀ f ∈ t.files, ∀ a, IsAnc a f.1 → a ∈ t.dirs
  dirsNe : ∀ d ∈ t.dirs, d ≠ []
  dirsAnc : ∀ d ∈ t.dirs, ∀ a, IsAnc a d → a ∈ t.dirs
  disjoint : ∀ f ∈ t.files, f.1 ∉ t.dirs
  nonEmpty : ∀ d ∈ t.dirs, hasEntries t d = true

theorem inv_empty : Inv Tree.empty := by constructor <;> simp [Tree.empty]

theorem hasEntries_iff (t : Tree) (p : Path) :
    hasEntries t p = true ↔ (∃ f ∈ t.files, f.1 ≠ [] ∧ f.1.dropLast = p) ∨ (∃ d ∈ t.dirs, d ≠ [] ∧ d.dropLast = p) := by
  simp only [hasEntries, Bool.or_eq_true, List.any_eq_true, Bool.and_eq_true, Bool.not_eq_true', beq_iff_eq,
    List.isEmpty_eq_false_iff, ne_eq]

theorem isFile_iff (t : Tree) (p : Path) : isFile t p = true ↔ ∃ f ∈ t.files, f.1 = p := by
  simp only [isFile, List.any_eq_true, beq_iff_eq]

theorem isDir_iff (t : Tree) (p : Path) : isDir t p = true ↔ p ∈ t.dirs :=
  List.contains_iff_mem

theorem put_some {t : Tree} {k : Path} {body : Bytes} {t' : Tree} (h : put t k body = some t') :
    k ≠ [] ∧ k ∉ t.dirs ∧ (∀ a, IsAnc a k → ∀ f ∈ t.files, f.1 ≠ a) ∧
    t'.files = t.files.filter (fun f => !(f.1 == k)) ++ [(k, body)] ∧
    t'.dirs = t.dirs ++ (ancestors k).filter (fun a => !isDir t a) := by
  simp only [put, Option.ite_none_left_eq_some, Option.some.injEq] at h
  obtain ⟨h1, h2, h3, rfl⟩ := h
  refine ⟨fun e => h1 (e ▸ rfl), fun hd => h2 ((isDir_iff t k).mpr hd), fun a ha f hf e => h3 ?_, rfl, rfl⟩
  exact List.any_eq_true.mpr ⟨a, (mem_ancestors k a).mpr ha, (isFile_iff t a).mpr ⟨f, hf, e⟩⟩

theorem mem_put_dirs (t : Tree) (k : Path) (d : Path) :
    d ∈ t.dirs ++ (ancestors k).filter (fun a => !isDir t a) ↔ d ∈ t.dirs ∨ IsAnc d k := by
  by_cases hd : d ∈ t.dirs <;> simp [hd, mem_ancestors, isDir]

theorem child_of_anc {a p : Path} (h : IsAnc a p) : ∃ c, c ≠ [] ∧ c.dropLast = a ∧ (c = p ∨ IsAnc c p) := by
  obtain ⟨ha, t, ht, rfl⟩ := h
  cases t with
  | nil => exact absurd rfl ht
  | cons x xs =>
    refine ⟨a ++ [x], by simp, by simp, ?_⟩
    cases xs with
    | nil => exact Or.inl rfl
    | cons y ys => exact Or.inr ⟨by simp, y :: ys, by simp, by simp⟩

/-- **put_inv**: an accepted upload keeps the tree well-formed -/
theorem put_inv (t : Tree) (k : Path) (body : Bytes) (t' : Tree) (hi : Inv t) (h : put t k body = some t') : Inv t' := by
  obtain ⟨hk, hkd, hanc, hf, hd⟩ := put_some h
  have memF : ∀ f, f ∈ t'.files ↔ (f ∈ t.files ∧ f.1 ≠ k) ∨ f = (k, body) := by
    intro f; rw [hf]; simp [List.mem_filter]
  have memD : ∀ d, d ∈ t'.dirs ↔ d ∈ t.dirs ∨ IsAnc d k := by
    intro d; rw [hd]; exact mem_put_dirs t k d
  refine ⟨?_, ?_, ?_, ?_, ?_, ?_, ?_⟩
  · intro f hf'
    rcases (memF f).mp hf' with ⟨h1, _⟩ | rfl
    · exact hi.filesNe f h1
    · exact hk
  · rw [hf, List.map_append, List.nodup_append]
    refine ⟨hi.uniq.sublist (List.filter_sublist.map _), by simp, fun a ha b hb => ?_⟩
    obtain ⟨f, hf1, rfl⟩ := List.mem_map.mp ha
    rw [List.mem_singleton.mp hb]
    simpa using (List.mem_filter.mp hf1).2
  · intro f hf' a ha
    rw [memD]
    rcases (memF f).mp hf' with ⟨h1, _⟩ | rfl
    · exact Or.inl (hi.anc f h1 a ha)
    · exact Or.inr ha
  · intro d hd'
    rcases (memD d).mp hd' with h1 | h1
    · exact hi.dirsNe d h1
    · exact h1.1
  · intro d hd' a ha
    rw [memD]
    rcases (memD d).mp hd' with h1 | h1
    · exact Or.inl (hi.dirsAnc d h1 a ha)
    · exact Or.inr (isAnc_trans ha h1)
  · intro f hf' hfd
    rcases (memF f).mp hf' with ⟨h1, _⟩ | rfl
    · rcases (memD f.1).mp hfd with h2 | h2
      · exact hi.disjoint f h1 h2
      · exact hanc f.1 h2 f h1 rfl
    · rcases (memD k).mp hfd with h2 | h2
      · exact hkd h2
      · exact isAnc_ne h2 rfl
  · intro d hd'
    rw [hasEntries_iff]
    rcases (memD d).mp hd' with h1 | h1
    · -- an old directory keeps an entry
      rcases (hasEntries_iff t d).mp (hi.nonEmpty d h1) with ⟨f, hf1, hf2, hf3⟩ | ⟨e, he1, he2, he3⟩
      · by_cases hfk : f.1 = k
        · exact Or.inl ⟨(k, body), (memF _).mpr (Or.inr rfl), hk, by rw [← hfk]; exact hf3⟩
        · exact Or.inl ⟨f, (memF f).mpr (Or.inl ⟨hf1, hfk⟩), hf2, hf3⟩
      · exact Or.inr ⟨e, (memD e).mpr (Or.inl he1), he2, he3⟩
    · obtain ⟨c, hc1, hc2, hc3⟩ := child_of_anc h1
      rcases hc3 with rfl | hc3
      · exact Or.inl ⟨(c, body), (memF _).mpr (Or.inr rfl), hc1, hc2⟩
      · exact Or.inr ⟨c, (memD c).mpr (Or.inr hc3), hc1, hc2⟩

/-- the tree is well-formed except that directory `x` may have been left empty -/
structure InvX (t : Tree) (x : Path) : Prop where
  filesNe : ∀ f ∈ t.files, f.1 ≠ []
  uniq : (t.files.map (·.1)).Nodup
  anc : ∀ f ∈ t.files, ∀ a, IsAnc a f.1 → a ∈ t.dirs
  dirsNe : ∀ d ∈ t.dirs, d ≠ []
  dirsAnc : ∀ d ∈ t.dirs, ∀ a, IsAnc a d → a ∈ t.dirs
  disjoint : ∀ f ∈ t.files, f.1 ∉ t.dirs
  nonEmpty : ∀ d ∈ t.dirs, d ≠ x → hasEntries t d = true

theorem InvX.toInv {t : Tree} {x : Path} (h : InvX t x) (hx : x ∈ t.dirs → hasEntries t x = true) : Inv t :=
  ⟨h.filesNe, h.uniq, h.anc, h.dirsNe, h.dirsAnc, h.disjoint, fun d hd => by
    by_cases e : d = x
    · exact e ▸ hx (e ▸ hd)
    · exact h.nonEmpty d hd e⟩

theorem InvX.anc_hasEntries {t : Tree} {x : Path} (h : InvX t x) {a p : Path} (ha : IsAnc a p)
    (hp : (∃ f ∈ t.files, f.1 = p) ∨ p ∈ t.dirs) : hasEntries t a = true := by
  obtain ⟨c, hc1, hc2, hc3⟩ := child_of_anc ha
  rw [hasEntries_iff]
  rcases hc3 with rfl | hc3
  · rcases hp with ⟨f, hf, rfl⟩ | hp
    · exact Or.inl ⟨f, hf, hc1, hc2⟩
    · exact Or.inr ⟨c, hp, hc1, hc2⟩
  · rcases hp with ⟨f, hf, rfl⟩ | hp
    · exact Or.inr ⟨c, h.anc f hf c hc3, hc1, hc2⟩
    · exact Or.inr ⟨c, h.dirsAnc p hp c hc3, hc1, hc2⟩

theorem InvX.prune_step {t : Tree} {dir : Path} (h : InvX t dir) (hh : ¬ hasEntries t dir = true) :
    InvX { t with dirs := t.dirs.filter (fun d => !(d == dir)) } dir.dropLast := by
  have memD : ∀ d, d ∈ t.dirs.filter (fun d => !(d == dir)) ↔ d ∈ t.dirs ∧ d ≠ dir := by
    intro d; simp [List.mem_filter]
  refine ⟨h.filesNe, h.uniq, ?_, ?_, ?_, ?_, ?_⟩
  · intro f hf a ha
    exact (memD a).mpr ⟨h.anc f hf a ha, fun e => hh (e ▸ h.anc_hasEntries ha (Or.inl ⟨f, hf, rfl⟩))⟩
  · intro d hd; exact h.dirsNe d ((memD d).mp hd).1
  · intro d hd a ha
    have hd' := ((memD d).mp hd).1
    exact (memD a).mpr ⟨h.dirsAnc d hd' a ha, fun e => hh (e ▸ h.anc_hasEntries ha (Or.inr hd'))⟩
  · intro f hf hfd; exact h.disjoint f hf ((memD f.1).mp hfd).1
  · intro d hd hne
    have hd' := (memD d).mp hd
    rw [hasEntries_iff]
    rcases (hasEntries_iff t d).mp (h.nonEmpty d hd'.1 hd'.2) with ⟨f, hf1, hf2, hf3⟩ | ⟨e, he1, he2, he3⟩
    · exact Or.inl ⟨f, hf1, hf2, hf3⟩
    · exact Or.inr ⟨e, (memD e).mpr ⟨he1, fun hEq => hne (hEq ▸ he3.symm)⟩, he2, he3⟩

theorem prune_inv (fuel : Nat) : ∀ (t : Tree) (dir : Path), InvX t dir → dir.length ≤ fuel → Inv (prune t fuel dir) := by
  intro t dir h hl
  fun_induction prune t fuel dir with
  | case1 t dir => exact h.toInv fun hd => absurd (List.eq_nil_of_length_eq_zero (Nat.le_zero.mp hl)) (h.dirsNe dir hd)
  | case2 t fuel dir he => exact h.toInv fun hd => absurd (List.isEmpty_iff.mp he) (h.dirsNe dir hd)
  | case3 t fuel dir _ hh => exact h.toInv fun _ => hh
  | case4 t fuel dir _ hh ih =>
    exact ih (h.prune_step hh) (by rw [List.length_dropLast]; exact Nat.sub_le_of_le_add hl)

/-- **delete_inv**: deleting a key — present, absent or a directory — keeps the tree well-formed:
    in particular the directories a deleted key leaves empty are gone -/
theorem delete_inv (t : Tree) (k : Path) (hi : Inv t) : Inv (delete t k) := by
  unfold delete
  split
  · exact hi
  split
  · exact hi
  apply prune_inv
  · have memF : ∀ f, f ∈ t.files.filter (fun f => !(f.1 == k)) ↔ f ∈ t.files ∧ f.1 ≠ k := by
      intro f; simp [List.mem_filter]
    refine ⟨?_, ?_, ?_, hi.dirsNe, hi.dirsAnc, ?_, ?_⟩
    · intro f hf; exact hi.filesNe f ((memF f).mp hf).1
    · exact hi.uniq.sublist (List.Sublist.map _ List.filter_sublist)
    · intro f hf a ha; exact hi.anc f ((memF f).mp hf).1 a ha
    · intro f hf; exact hi.disjoint f ((memF f).mp hf).1
    · intro d hd hne
      rw [hasEntries_iff]
      rcases (hasEntries_iff t d).mp (hi.nonEmpty d hd) with ⟨f, hf1, hf2, hf3⟩ | ⟨e, he1, he2, he3⟩
      · by_cases hfk : f.1 = k
        · exfalso; apply hne; rw [← hf3, hfk]
        · exact Or.inl ⟨f, (memF f).mpr ⟨hf1, hfk⟩, hf2, hf3⟩
      · exact Or.inr ⟨e, he1, he2, he3⟩
  · have : k.dropLast.length = k.length - 1 := List.length_dropLast
    omega

theorem file_ext {t : Tree} (hi : Inv t) {x y : Path × Bytes} (hx : x ∈ t.files) (hy : y ∈ t.files) (h : x.1 = y.1) : x = y :=
  List.inj_on_of_nodup_map (·.1) _ hi.uniq x hx y hy h

theorem content_of_mem {t : Tree} (hi : Inv t) {f : Path × Bytes} (hf : f ∈ t.files) : content t f.1 = some f.2 := by
  unfold content
  cases hfind : t.files.find? (fun g => g.1 == f.1) with
  | none => exact absurd (List.find?_eq_none.mp hfind f hf) (by simp)
  | some g =>
    rw [file_ext hi (List.mem_of_find?_eq_some hfind) hf (by simpa using List.find?_some hfind)]
    rfl

theorem content_dir_none {t : Tree} (hi : Inv t) {p : Path} (hd : isDir t p = true) : content t p = none := by
  rw [content, Option.map_eq_none_iff, List.find?_eq_none]
  intro f hf he
  exact hi.disjoint f hf (beq_iff_eq.mp he ▸ (isDir_iff t p).mp hd)

/-- no object lies below another object, and no object is a directory of others -/
theorem no_nested_objects (t : Tree) (hi : Inv t) (f g : Path × Bytes) (hf : f ∈ t.files) (hg : g ∈ t.files) :
    ¬ IsAnc f.1 g.1 := fun h => hi.disjoint f hf (hi.anc g hg f.1 h)

theorem content_put {t : Tree} {k : Path} {body : Bytes} {t' : Tree} (h : put t k body = some t') (k' : Path) :
    content t' k' = if k' = k then some body else content t k' := by
  obtain ⟨_, _, _, hf, _⟩ := put_some h
  unfold content
  rw [hf, Assoc.find?_replace]
  split <;> rfl

/-- an upload to `k` leaves the bytes of every other key alone -/
theorem put_frame (t : Tree) (k k' : Path) (body : Bytes) (t' : Tree) (h : put t k body = some t') (hne : k' ≠ k) :
    content t' k' = content t k' := by
  rw [content_put h k', if_neg hne]

/-- after an accepted upload the key reads back the uploaded bytes -/
theorem put_get (t : Tree) (k : Path) (body : Bytes) (t' : Tree) (h : put t k body = some t') : content t' k = some body := by
  rw [content_put h k, if_pos rfl]

theorem prune_files (fuel : Nat) (t : Tree) (dir : Path) : (prune t fuel dir).files = t.files := by
  fun_induction prune t fuel dir with
  | case1 | case2 | case3 => rfl
  | case4 _ _ _ _ _ ih => exact ih

theorem content_delete {t : Tree} {k : Path} (hk : k ≠ []) (hd : isDir t k = false) (k' : Path) :
    content (delete t k) k' = if k' = k then none else content t k' := by
  simp only [delete, List.isEmpty_eq_false_iff.mpr hk, hd, Bool.false_eq_true, if_false, content, prune_files]
  rw [Assoc.find?_filter_ne]
  split <;> rfl

/-- a delete of `k` — object, absent or directory — leaves the bytes of every other key alone -/
theorem delete_frame (t : Tree) (k k' : Path) (hne : k' ≠ k) : content (delete t k) k' = content t k' := by
  by_cases hk : k = []
  · subst hk; rfl
  · cases hd : isDir t k with
    | false => rw [content_delete hk hd k', if_neg hne]
    | true =>
      unfold delete
      rw [hd, if_pos rfl, ite_self]

theorem delete_get (t : Tree) (k : Path) (hk : k ≠ []) (hd : isDir t k = false) : content (delete t k) k = none := by
  rw [content_delete hk hd k, if_pos rfl]

/-- histories of uploads and deletes on one bucket's tree -/
inductive FOp where
  | put (k : Path) (body : Bytes)
  | del (k : Path)

def fstep (t : Tree) : FOp → Tree
  | .put k body => (put t k body).getD t      -- a refused upload changes nothing
  | .del k => delete t k

theorem fstep_inv (t : Tree) (op : FOp) (h : Inv t) : Inv (fstep t op) := by
  cases op with
  | put k body =>
    simp only [fstep]
    cases hp : put t k body with
    | none => exact h
    | some t' => exact put_inv t k body t' h hp
  | del k => exact delete_inv t k h

/-- **tree_always_wellformed**: after ANY finite sequence of uploads (accepted or refused) and
    deletes, starting from a well-formed tree (the empty bucket's: `inv_empty`), every ancestor of
    an object is a directory, no directory is empty, no object is a directory or lies below another
    object. -/
theorem tree_always_wellformed (ops : List FOp) : ∀ t, Inv t → Inv (ops.foldl fstep t) := fun t h =>
  Fold.foldl_inv ops t (fun t op _ h => fstep_inv t op h) h

/-! Non-vacuity: a/b/c and a/d, then delete a/b/c: directory a/b goes, a stays. -/
example : (([FOp.put [[97], [98], [99]] [1], .put [[97], [100]] [2], .put [[97]] [3], .del [[97], [98], [99]]].foldl fstep Tree.empty).dirs,
    ([FOp.put [[97], [98], [99]] [1], .put [[97], [100]] [2], .put [[97]] [3], .del [[97], [98], [99]]].foldl fstep Tree.empty).files) =
    ([[[97]]], [([[97], [100]], [2])]) := by decide +kernel

end GFS.Props.FsInv
