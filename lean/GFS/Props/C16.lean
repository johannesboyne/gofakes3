import GFS.Model.HostBucket
import GFS.Lemmas.BytesLemmas
/-
  C16 — path-style and virtual-host-style addressing reach the same bucket and key.
-/
namespace GFS.Props.C16
open GFS.Bytes GFS.Model

/-- **outer_slashes_irrelevant**: any number of extra slashes before the bucket and after the
    key addresses the same (bucket, key), for a non-empty bucket name without '/' and a non-empty
    key that does not end with '/'. -/
theorem outer_slashes_irrelevant (i j : Nat) (b k : Bytes) (b0 : UInt8) (bs : Bytes) (kl : UInt8)
    (hb : b = b0 :: bs) (hbs : (47 : UInt8) ∉ b) (hkl : k.getLast? = some kl) (hkl47 : kl ≠ 47) :
    routeSplit (List.replicate i 47 ++ (b ++ 47 :: k) ++ List.replicate j 47) = (b, k) := by
  have hcore : trim1 47 (List.replicate i 47 ++ (b ++ 47 :: k) ++ List.replicate j 47) = b ++ 47 :: k := by
    apply trim1_replicate_append
    · rw [hb]; exact fun e => hbs (by rw [hb, ← Option.some.inj e]; exact List.mem_cons_self ..)
    · rw [List.getLast?_append, List.getLast?_cons, hkl]; exact fun e => hkl47 (Option.some.inj e)
  unfold routeSplit
  simp only [hcore, indexOf_append_of_notMem hbs]
  simp

set_option linter.unusedVariables false in  -- `hh`, `hl` are not needed: `hbs` gives both
/-- a bucket alone (with or without trailing slashes) is routed to the bucket with no key -/
theorem bucket_only (i j : Nat) (b : Bytes) (b0 bl : UInt8) (hh : b.head? = some b0) (hl : b.getLast? = some bl)
    (hbs : (47 : UInt8) ∉ b) :
    routeSplit (List.replicate i 47 ++ b ++ List.replicate j 47) = (b, []) := by
  have := trim1_replicate_append 47 i j (fun e => hbs (List.mem_of_head? e)) (fun e => hbs (List.mem_of_getLast? e))
  unfold routeSplit
  simp only [this, indexOf_eq_none.mpr hbs]

theorem firstLabel_label (b rest : Bytes) (h : (46 : UInt8) ∉ b) : firstLabel (b ++ 46 :: rest) = b := by
  rw [firstLabel, List.takeWhile_append_of_pos fun a ha => by simpa using fun e : a = 46 => h (e ▸ ha)]
  exact List.append_nil b

/-- **host_eq_path**: with host-bucket routing a request for host `<bucket>.<anything>` and path
    `p` reaches the router with the path `/<bucket>` ++ p of the path-style request (`/<bucket>`
    when p is "/", which the router treats alike); everything after the rewrite is the same handler
    on the same request, so the two address the same bucket and key. -/
theorem host_eq_path (b rest p : Bytes) (b0 bl : UInt8) (hdot : (46 : UInt8) ∉ b)
    (hh : b.head? = some b0) (hl : b.getLast? = some bl) (hslash : (47 : UInt8) ∉ b) :
    hostRewrite (b ++ 46 :: rest) p = (if p = [47] then 47 :: b else 47 :: b ++ p) ∧
    routeSplit (hostRewrite (b ++ 46 :: rest) p) = routeSplit (47 :: b ++ p) := by
  unfold hostRewrite withBucket
  rw [firstLabel_label b rest hdot]
  simp only [beq_iff_eq]
  by_cases hp : p = [47]
  · subst hp
    have e1 : routeSplit (47 :: b) = (b, []) := by simpa using bucket_only 1 0 b b0 bl hh hl hslash
    have e2 : routeSplit (47 :: b ++ [47]) = (b, []) := by simpa using bucket_only 1 1 b b0 bl hh hl hslash
    rw [if_pos rfl, if_pos rfl, List.append_nil, e1, e2]
    exact ⟨rfl, rfl⟩
  · rw [if_neg hp, if_neg hp]
    exact ⟨rfl, rfl⟩

/-- **base_fallback**: with a list of bases, a host for which no base matches is routed exactly
    as in path-style mode. -/
theorem base_fallback (bases : List Bytes) (host path : Bytes) (h : matchBucket bases host = none) :
    baseRewrite bases host path = path := by
  unfold baseRewrite; rw [h]

/-- what `matchBucket` finds: the dot-free labels that a configured base completes to the host.
    The first base that fits answers; a later one that fits gives the same label, since the label
    is the host up to its first dot. -/
theorem matchBucket_eq_some_iff (bases : List Bytes) (host bucket : Bytes) :
    matchBucket bases host = some bucket ↔
      ∃ base ∈ bases, host = bucket ++ normBase base ∧ (46 : UInt8) ∉ bucket := by
  induction bases with
  | nil => simp [matchBucket]
  | cons base rest ih =>
    unfold matchBucket
    simp only [List.mem_cons, exists_eq_or_imp, ← ih]
    by_cases hsuf : hasSuffix host (normBase base) = true
    · obtain ⟨bk, rfl⟩ := hasSuffix_iff.mp hsuf
      have htake : (bk ++ normBase base).take ((bk ++ normBase base).length - (normBase base).length) = bk := by
        rw [List.length_append, Nat.add_sub_cancel, List.take_left' rfl]
      simp only [hsuf, if_true, htake, List.append_cancel_right_eq]
      have hmem : bk.contains 46 = true ↔ (46 : UInt8) ∈ bk := List.contains_iff_mem
      by_cases hc : bk.contains 46 = true
      · simp only [hc, if_true]
        exact ⟨Or.inr, fun h => h.resolve_left fun ⟨e, hd⟩ => hd (e ▸ hmem.mp hc)⟩
      · simp only [hc, Bool.false_eq_true, if_false, Option.some.injEq]
        have hbk : (46 : UInt8) ∉ bk := mt hmem.mpr hc
        constructor
        · rintro rfl; exact .inl ⟨rfl, hbk⟩
        · rintro (⟨e, -⟩ | h)
          · exact e
          · obtain ⟨b', -, e, hd⟩ := ih.mp h
            exact (firstLabel_label bk _ hbk).symm.trans ((congrArg firstLabel e).trans (firstLabel_label bucket _ hd))
    · simp only [hsuf, Bool.false_eq_true, if_false]
      exact ⟨Or.inr, fun h => h.resolve_left fun ⟨e, _⟩ => hsuf (hasSuffix_iff.mpr (e ▸ List.suffix_append ..))⟩

/-- a match means the host really is `<label><"."+base>` for a configured base, with a dot-free label -/
theorem matchBucket_sound (bases : List Bytes) (host bucket : Bytes) (h : matchBucket bases host = some bucket) :
    ∃ base ∈ bases, host = bucket ++ normBase base ∧ (46 : UInt8) ∉ bucket :=
  (matchBucket_eq_some_iff bases host bucket).mp h

example : hostRewrite [109, 121, 98, 46, 108, 111, 99] [47, 107] = [47, 109, 121, 98, 47, 107] := by decide +kernel
example : routeSplit [47, 47, 98, 47, 107, 47, 47] = ([98], [107]) := by decide +kernel
example : matchBucket [[101, 120]] [98, 46, 101, 120] = some [98] := by decide +kernel

end GFS.Props.C16
