import GFS.Spec.NameSpec
import GFS.Lemmas.BytesLemmas
/-
  C17 — bucket names are accepted exactly when they satisfy the documented rules.
-/
namespace GFS.Props.C17
open GFS.Bytes GFS.Model GFS.Spec

theorem midc_eq_ldh (c : UInt8) (h : c ≠ 46) : midc c = ldh c := by
  unfold midc ldh
  have : (c == 46) = false := by simpa using h
  simp [this]

theorem patMatch_eq_true (s : Bytes) : patMatch s = true ↔
    3 ≤ s.length ∧ s.head?.any alnum = true ∧ s.getLast?.any alnum = true ∧ s.all midc = true := by
  simp only [patMatch, Bool.and_eq_true, decide_eq_true_eq, and_assoc]

/-- on a dot-free string the pattern of the code is the label rule of the statement -/
theorem patMatch_iff_labelOk (l : Bytes) (hl : (46 : UInt8) ∉ l) :
    patMatch l = true ↔ LabelOk l := by
  have hall : l.all midc = true ↔ ∀ c ∈ l, ldh c = true := by
    rw [List.all_eq_true]
    exact forall_congr' fun c => forall_congr' fun hc => by rw [midc_eq_ldh c fun e => hl (e ▸ hc)]
  rw [patMatch_eq_true, LabelOk, hall]
  exact ⟨fun ⟨h1, h2, h3, h4⟩ => ⟨h1, h4, h2, h3⟩, fun ⟨h1, h2, h3, h4⟩ => ⟨h1, h3, h4, h2⟩⟩

/-- if every label matches the pattern then so does the whole name (the whole-name test
    of the code is implied by the per-label tests; it never rejects a name on its own) -/
theorem labels_imply_whole (s : Bytes) (h3 : 3 ≤ s.length)
    (h : ∀ l ∈ splitOn1 46 s, patMatch l = true) : patMatch s = true := by
  have h' := fun l hl => (patMatch_eq_true l).mp (h l hl)
  obtain ⟨f, fs, hF⟩ := List.exists_cons_of_ne_nil (splitOn1_ne_nil 46 s)
  obtain ⟨A, z, hL⟩ := exists_splitOn1_concat 46 s
  obtain ⟨hf3, hhd, -⟩ := h' f (by rw [hF]; exact List.mem_cons_self ..)
  obtain ⟨hz3, -, hlast, -⟩ := h' z (by rw [hL]; exact List.mem_concat_self ..)
  refine (patMatch_eq_true s).mpr ⟨h3, ?_, ?_, ?_⟩
  · -- the first byte is the first byte of the first label
    rw [head?_eq_of_splitOn1 hF (List.ne_nil_of_length_pos (Nat.lt_of_lt_of_le (Nat.zero_lt_succ _) hf3))]
    exact hhd
  · -- the last byte is the last byte of the last label
    rw [getLast?_eq_of_splitOn1 hL (List.ne_nil_of_length_pos (Nat.lt_of_lt_of_le (Nat.zero_lt_succ _) hz3))]
    exact hlast
  · rw [all_splitOn1 midc 46 (by decide) s, List.all_eq_true]
    exact fun l hl => (h' l hl).2.2.2

/-- **validate_iff_spec**: for every byte string, `ValidateBucketName` accepts it exactly
    when it satisfies the documented rule. -/
theorem validate_iff_spec (s : Bytes) : validateBucketName s = true ↔ NameOk s := by
  have hlab : (∀ l ∈ splitOn1 46 s, patMatch l = true) ↔ (∀ l ∈ splitOn1 46 s, LabelOk l) :=
    forall_congr' fun l => forall_congr' fun hl => patMatch_iff_labelOk l (splitOn1_no_sep 46 s l hl)
  unfold validateBucketName NameOk FormattedAsIP
  rw [← hlab]
  constructor
  · intro h
    simp only [Bool.if_false_left, Bool.and_eq_true, Bool.not_eq_true', decide_eq_false_iff_not] at h
    obtain ⟨hlen, -, hip, h⟩ := h
    exact ⟨by omega, by omega, List.all_eq_true.mp h, hip⟩
  · rintro ⟨h1, h2, h3, h4⟩
    have hlen : ¬ (s.length < 3 ∨ s.length > 63) := by omega
    simp only [hlen, if_false, labels_imply_whole s h1 h3, Bool.not_true, Bool.false_eq_true, h4]
    exact List.all_eq_true.mpr h3

/-! Non-vacuity and the cases the statement names. -/
-- "abc"
example : validateBucketName [97, 98, 99] = true := by decide +kernel
-- "my-bucket.data1"
example : validateBucketName [109,121,45,98,117,99,107,101,116,46,100,97,116,97,49] = true := by decide +kernel
-- "ab" too short, "a.bcd" short label, "ab..cd" empty label, "Abc" upper case, "-ab" leading hyphen
example : validateBucketName [97, 98] = false := by decide +kernel
example : validateBucketName [97, 46, 98, 99, 100] = false := by decide +kernel
example : validateBucketName [97, 98, 99, 46, 46, 99, 100, 101] = false := by decide +kernel
example : validateBucketName [65, 98, 99] = false := by decide +kernel
example : validateBucketName [45, 97, 98] = false := by decide +kernel
-- "100.200.100.200" is formatted as an IP address; "100.200.100.256" is not
example : validateBucketName [49,48,48,46,50,48,48,46,49,48,48,46,50,48,48] = false := by decide +kernel
example : validateBucketName [49,48,48,46,50,48,48,46,49,48,48,46,50,53,54] = true := by decide +kernel
example : NameOk [97, 98, 99] := (validate_iff_spec _).mp (by decide)

end GFS.Props.C17
