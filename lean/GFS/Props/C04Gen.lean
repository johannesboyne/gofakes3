import GFS.Generated.ClampGo
import GFS.Model.ParseInt
/-
  The tie for the page-size clamp (max-keys, max-uploads, max-parts) of C04 (and C13/C14):
  the body of `parseClampedInt` re-translated from /repo on every run satisfies the same
  specification as the hand-written model, for all inputs.  A change to util.go changes
  `GFS.Generated.clampGo`, and these proofs are re-checked against it.
-/
namespace GFS.Props.C04Gen
open GFS.Model GFS.Generated

/-- **clampGo_spec**: the clamp of `parseClampedInt` as it is in /repo now is `max lo (min hi v)`
    for `lo ≤ hi`. -/
theorem clampGo_spec (v lo hi : Int) (h : lo ≤ hi) :
    clampGo v lo hi = some (max lo (min hi v)) := by
  simp only [clampGo, decide_eq_true_eq, Option.some.injEq]
  by_cases h1 : v < lo
  · rw [if_pos h1, Int.max_eq_left (Int.le_trans (Int.min_le_right ..) (Int.le_of_lt h1))]
  rw [if_neg h1, Int.max_eq_right (Int.le_min.mpr ⟨h, Int.not_lt.mp h1⟩)]
  by_cases h2 : v > hi
  · rw [if_pos h2, Int.min_eq_left (Int.le_of_lt h2)]
  · rw [if_neg h2, Int.min_eq_right (Int.not_lt.mp h2)]

/-- **clampGo_eq_model**: the model's `parseClampedInt` is the translated clamp applied to the
    parsed (or default) value. -/
theorem clampGo_eq_model (s : Bytes) (d lo hi : Int) :
    parseClampedInt s d lo hi =
      (if s.isEmpty then some d else parseInt64 s).bind (fun v => clampGo v lo hi) := by
  unfold parseClampedInt
  cases (if s.isEmpty then some d else parseInt64 s) with
  | none => rfl
  | some v => simp only [Option.bind_some, clampGo, decide_eq_true_eq]

end GFS.Props.C04Gen
