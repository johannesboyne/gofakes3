import GFS.Props.ListLoop
import GFS.Lemmas.ListLemmas
/-
  C03 without a delimiter: the unpaginated listing shows exactly the live keys that start with the
  prefix, in stored order (`list_plain_exact`, `listBucket_plain`).  Grouping under a delimiter is
  Props/C03G; that the stored order is ascending is the bucket's invariant (`SMap.Sorted`).
-/
namespace GFS.Props.C03
open GFS.Model GFS.Props.C03G GFS.Props.ListLoop

/-- a prefix without delimiter -/
def plain (pfx : Bytes) : Prefix := ⟨!pfx.isEmpty, pfx, false, 0⟩

theorem match_plain_eq (pfx key : Bytes) :
    (plain pfx).match_ key = if Bytes.hasPrefix key pfx then some (false, if pfx.isEmpty then key else pfx) else none := by
  unfold plain Prefix.match_
  cases pfx with
  | nil => simp [Bytes.hasPrefix]
  | cons c cs => simp

/-- without a delimiter `Prefix.Match` is the string-prefix test of the specification -/
theorem match_plain (pfx key : Bytes) :
    ((plain pfx).match_ key).isSome = Bytes.hasPrefix key pfx ∧
    ∀ r, (plain pfx).match_ key = some r → r.1 = false := by
  rw [match_plain_eq]
  cases Bytes.hasPrefix key pfx
  · exact ⟨rfl, fun r h => nomatch h⟩
  · exact ⟨rfl, fun r h => by cases h; rfl⟩

/-- the objects a plain listing shows: live (current version not a delete marker) and matching -/
def shown (pfx : Bytes) (objs : List (Key × Obj)) : List Content :=
  objs.filterMap fun (k, o) =>
    match o.data with
    | some d => if Bytes.hasPrefix k pfx && !d.marker then some ⟨k, d.body.length, d.hash⟩ else none
    | none => none

theorem plain_ne_cp {pfx key mp : Bytes} : (plain pfx).match_ key ≠ some (true, mp) :=
  fun h => Bool.noConfusion ((match_plain pfx key).2 _ h)

theorem cpsOf_plain (pfx : Bytes) (objs : List (Key × Obj)) : cpsOf (plain pfx) objs = [] := by
  apply List.eq_nil_iff_forall_not_mem.mpr
  intro x hx
  obtain ⟨q, _, hm⟩ := mem_cpsOf hx
  exact plain_ne_cp hm

theorem contentsOf_plain (pfx : Bytes) (objs : List (Key × Obj)) : contentsOf (plain pfx) objs = shown pfx objs := by
  apply List.filterMap_congr'
  intro ⟨k, o⟩ _
  rw [liveMatch, match_plain_eq]
  dsimp only
  cases o.data with
  | none => rfl
  | some d =>
    dsimp only
    cases Bytes.hasPrefix k pfx <;> cases d.marker <;> rfl

/-- **list_plain_exact** (C03, no delimiter, no limit): over any run of stored objects that all
    have a current version, the listing loop adds to what it has collected exactly the live objects
    whose key starts with the prefix, in the order they are stored, with the size and digest of the
    stored bytes; delete-marked keys add nothing; common prefixes, truncation flag and marker stay
    as they were.  `listBucket_plain` is this for a whole bucket; that the stored order is
    ascending with each key once is the bucket's invariant (`SMap.Sorted`), not part of this. -/
theorem list_plain_exact (pfx : Bytes) (objs : List (Key × Obj)) (cnt : Int) (last : Bytes) (acc : ObjectList)
    (hinv : ∀ p ∈ objs, p.2.data ≠ none) :
    listLoop (plain pfx) 0 objs cnt last acc =
      .ok { acc with contents := acc.contents ++ shown pfx objs } := by
  rw [page_unlimited (plain pfx) objs cnt last acc hinv (by simp [cpsOf_plain]), canon, cpsOf_plain, contentsOf_plain]
  rfl

theorem listBucket_plain {m : Mem} {b : Bytes} {bk : Bucket} (hb : SMap.find m.buckets b = some bk)
    (hinv : ∀ q ∈ bk.objects, q.2.data ≠ none) (pfx : Bytes) :
    m.listBucket b (plain pfx) [] 0 = .ok ⟨shown pfx bk.objects, [], false, []⟩ := by
  rw [listBucket_unpaged hb hinv fun _ _ _ hm => absurd hm plain_ne_cp, cpsOf_plain, contentsOf_plain]
  rfl

/-! Non-vacuity: two live keys and a delete-marked one. -/
example : listLoop (plain [97]) 0
    [([97], ⟨some ⟨1, false, [1, 2], [9], []⟩, []⟩), ([97, 98], ⟨some ⟨2, true, [], [], []⟩, []⟩), ([98], ⟨some ⟨3, false, [7], [8], []⟩, []⟩)]
    0 [] ⟨[], [], false, []⟩ = .ok ⟨[⟨[97], 2, [9]⟩], [], false, []⟩ := by
  decide +kernel

end GFS.Props.C03
