import GFS.Model.MemList
/-
  C13 — version listings show each version once, flag the true latest.
-/
namespace GFS.Props.C13
open GFS.Model

theorem allVersions_fst (o : Obj) : o.allVersions.map (·.1) = o.versions ++ o.data.toList := by
  unfold Obj.allVersions
  cases o.data <;> simp [List.map_map, Function.comp_def]

/-- the iterator over an object's versions yields every archived version once, then the
    current one, and flags exactly the current one as latest -/
theorem allVersions_spec (o : Obj) (d : Ver) (h : o.data = some d) :
    o.allVersions.map (·.1) = o.versions ++ [d] ∧
    (o.allVersions.filter (·.2)) = [(d, true)] := by
  refine ⟨by rw [allVersions_fst, h, Option.toList_some], ?_⟩
  unfold Obj.allVersions
  simp [h, List.filter_append, List.filter_map, Function.comp_def]

theorem allVersions_flags (o : Obj) (d : Ver) (h : o.data = some d) :
    o.allVersions.map (·.2) = List.replicate o.versions.length false ++ [true] := by
  unfold Obj.allVersions
  simp [h, List.map_append, List.map_map, Function.comp_def, List.map_const']

def entryOf (k : Key) (masked : Bool) (p : Ver × Bool) : VerEntry :=
  ⟨k, if masked then none else some p.1.id, p.1.marker, p.2, p.1.body.length, p.1.hash⟩

/-- the inner loop over one key's versions takes them all (limit not reached) or stops at the limit with
    at least one taken; what it took, what is left and the marker it names: the case distinction of
    the unpaginated listing and of `C13W.page` alike -/
theorem inner_split (k : Key) (masked : Bool) (L : Int) (vs : List (Ver × Bool)) (cnt : Int) (acc : List VerEntry)
    (h : L ≤ 0 ∨ cnt < L) :
    ∃ tk rs, vs = tk ++ rs ∧
      (((L ≤ 0 ∨ cnt + tk.length < L) ∧ rs = [] ∧
          verLoopInner k masked L vs cnt acc = (acc ++ tk.map (entryOf k masked), cnt + tk.length, none)) ∨
       (0 < L ∧ cnt + tk.length = L ∧ tk ≠ [] ∧
          verLoopInner k masked L vs cnt acc = (acc ++ tk.map (entryOf k masked), L, some (rs.head?.map (·.1.id))))) := by
  induction vs generalizing cnt acc with
  | nil => exact ⟨[], [], rfl, Or.inl ⟨by simpa using h, rfl, by simp [verLoopInner]⟩⟩
  | cons q rest ih =>
    obtain ⟨v, isCur⟩ := q
    unfold verLoopInner
    by_cases hs : L > 0 ∧ cnt + 1 ≥ L
    · rw [if_pos hs]
      exact ⟨[(v, isCur)], rest, rfl, Or.inr ⟨hs.1, by simp; omega, by simp, by simp [entryOf]; omega⟩⟩
    · rw [if_neg hs]
      obtain ⟨tk, rs, e, hh⟩ := ih (cnt + 1) (acc ++ [⟨k, if masked then none else some v.id, v.marker, isCur, v.body.length, v.hash⟩])
        (by omega)
      refine ⟨(v, isCur) :: tk, rs, by rw [e]; rfl, hh.imp ?_ ?_⟩
      · rintro ⟨a1, a2, a3⟩
        exact ⟨by simp; omega, a2, by rw [a3]; simp [entryOf]; omega⟩
      · rintro ⟨a0, a1, a2, a3⟩
        exact ⟨a0, by simp; omega, by simp, by rw [a3]; simp [entryOf]⟩

/-- **verLoopInner_unpaginated**: without a page limit the entries emitted for one key are exactly
    its versions and markers, each once, in the iterator's order. -/
theorem verLoopInner_unpaginated (k : Key) (masked : Bool) (vs : List (Ver × Bool)) (cnt : Int) (acc : List VerEntry) :
    verLoopInner k masked 0 vs cnt acc = (acc ++ vs.map (entryOf k masked), cnt + vs.length, none) := by
  obtain ⟨tk, rs, e, ⟨_, rfl, a3⟩ | ⟨a0, _⟩⟩ := inner_split k masked 0 vs cnt acc (Or.inl (Int.le_refl 0))
  · rw [a3, e, List.append_nil]
  · omega

/-- **never_versioned_null**: in a bucket that never had versioning every listed id is "null" -/
theorem never_versioned_null (k : Key) (vs : List (Ver × Bool)) :
    ∀ e ∈ vs.map (entryOf k true), e.vid = none := by
  intro e he
  obtain ⟨p, _, rfl⟩ := List.mem_map.mp he
  rfl

/-- of the entries listed for a key whose object has a current version `d`, exactly one is flagged
    latest: that of `d` -/
theorem exactly_one_latest (k : Key) (masked : Bool) (o : Obj) (d : Ver) (h : o.data = some d) :
    ((o.allVersions.map (entryOf k masked)).filter (·.isLatest)) = [entryOf k masked (d, true)] := by
  rw [List.filter_map]
  exact congrArg (List.map (entryOf k masked)) (allVersions_spec o d h).2

example : (⟨some ⟨3, true, [], [], []⟩, [⟨1, false, [1], [9], []⟩]⟩ : Obj).allVersions.map (·.2) = [false, true] := by rfl

end GFS.Props.C13
