import GFS.Model.Uploader
/-
  C14 — multipart bookkeeping listings are exact and page completely (ListParts).
-/
namespace GFS.Props.C14
open GFS.Model GFS.Model.Upl

/-- the held parts of a slice whose first element has part number `n`, with their true numbers -/
def held : List (Option Part) → Nat → List PartItem
  | [], _ => []
  | none :: rest, n => held rest (n + 1)
  | some p :: rest, n => ⟨n, p.body.length, p.hash⟩ :: held rest (n + 1)

/-- **listParts_exact**: with a limit above the number of held parts the listing loop returns exactly
    the held parts with their true numbers, sizes and digests, ascending, and reports no truncation
    (`Upl.listParts` of a pending upload: `C14R.listParts_of_pending`). -/
theorem listParts_exact (limit : Int) (parts : List (Option Part)) (n : Nat) (cnt : Int) (acc : List PartItem)
    (h : cnt + (held parts n).length ≤ limit) :
    listPartsLoop limit parts n cnt acc = ⟨acc ++ held parts n, false, 0⟩ := by
  induction parts generalizing n cnt acc with
  | nil => simp [listPartsLoop, held]
  | cons p rest ih =>
    cases p with
    | none =>
      exact ih (n + 1) cnt acc h
    | some q =>
      simp only [held, List.length_cons] at h
      unfold listPartsLoop
      have hlt : ¬ cnt ≥ limit := by omega
      simp only [hlt, if_false, held]
      rw [ih (n + 1) (cnt + 1) _ (by omega)]
      simp [List.append_assoc]

/-- with `cnt ≤ limit` (not `<`) this is one induction: `cnt = limit` is where a page stops -/
theorem listPartsLoop_split (limit : Int) (parts : List (Option Part)) (n : Nat) (cnt : Int)
    (hc : cnt ≤ limit) (acc : List PartItem) :
    let r := listPartsLoop limit parts n cnt acc
    (r.truncated = false → r.parts = acc ++ held parts n) ∧
    (r.truncated = true → ∃ j, r.next = n + j ∧ j < parts.length ∧
        r.parts ++ held (parts.drop j) (n + j) = acc ++ held parts n ∧ (parts.drop j).head?.join.isSome ∧
        (cnt < limit → 0 < j)) := by
  induction parts generalizing n cnt acc with
  | nil => exact ⟨fun _ => (List.append_nil acc).symm, Bool.noConfusion⟩
  | cons p rest ih =>
    have shift : ∀ j, n + (j + 1) = n + 1 + j := by omega
    cases p with
    | none =>
      obtain ⟨h1, h2⟩ := ih (n + 1) cnt hc acc
      refine ⟨h1, fun ht => ?_⟩
      obtain ⟨j, a1, a2, a3, a4, _⟩ := h2 ht
      exact ⟨j + 1, a1.trans (shift j).symm, Nat.succ_lt_succ a2, by rw [shift j]; exact a3, a4, fun _ => j.succ_pos⟩
    | some q =>
      unfold listPartsLoop
      by_cases hfull : cnt ≥ limit
      · rw [if_pos hfull]
        exact ⟨Bool.noConfusion, fun _ => ⟨0, rfl, rest.length.succ_pos, rfl, rfl, fun h => absurd hfull (Int.not_le.mpr h)⟩⟩
      · rw [if_neg hfull]
        obtain ⟨h1, h2⟩ := ih (n + 1) (cnt + 1) (by omega) (acc ++ [⟨n, q.body.length, q.hash⟩])
        refine ⟨fun ht => (h1 ht).trans (List.append_assoc ..), fun ht => ?_⟩
        obtain ⟨j, a1, a2, a3, a4, _⟩ := h2 ht
        exact ⟨j + 1, a1.trans (shift j).symm, Nat.succ_lt_succ a2, by rw [shift j]; exact a3.trans (List.append_assoc ..), a4,
          fun _ => j.succ_pos⟩

set_option linter.unusedVariables false in
/-- **listParts_page_split**: a page that stops at the limit reports as continuation the true number
    of a held part, and the page followed by the held parts from that number on (`held`) is the whole
    listing.  (That a request with that marker returns those: `C14W.listParts_walk_exact`.) -/
theorem listParts_page_split (limit : Int) (hl : 1 ≤ limit) (parts : List (Option Part)) (n : Nat) (cnt : Int)
    (hc : cnt < limit) (acc : List PartItem) :
    let r := listPartsLoop limit parts n cnt acc
    (r.truncated = false → r.parts = acc ++ held parts n) ∧
    (r.truncated = true → ∃ j, r.next = n + j ∧ j < parts.length ∧
        r.parts ++ held (parts.drop j) (n + j) = acc ++ held parts n ∧ (parts.drop j).head?.join.isSome) := by
  obtain ⟨h1, h2⟩ := listPartsLoop_split limit parts n cnt (Int.le_of_lt hc) acc
  exact ⟨h1, fun ht => let ⟨j, a1, a2, a3, a4, _⟩ := h2 ht; ⟨j, a1, a2, a3, a4⟩⟩

/-! Non-vacuity: parts 1 and 3 held, page size 1. -/
example : listPartsLoop 1 [none, some ⟨[1], [9]⟩, none, some ⟨[2, 2], [8]⟩] 0 0 [] = ⟨[⟨1, 1, [9]⟩], true, 3⟩ := by rfl

end GFS.Props.C14
