import GFS.Spec.RangeSpec
import GFS.Model.RangeHeader
import GFS.Lemmas.ResLemmas
/-
  C11 — range reads return exactly the requested bytes or InvalidRange.  `range` computes a
  (start, length) from the request and then checks it (`accept`).  It is first described in plain
  integer arithmetic, form of request by form (`range_*_eq`): the only int64 operation that can
  wrap is `size - end` of the suffix form with a negative `end`, and its result is refused either
  way.  The agreement with the specification and the bounds then are linear arithmetic.
-/
namespace GFS.Props.C11
open GFS.Model GFS.Spec

/-- requests the header parser can produce: `first ≥ 0`, and `last ≥ first` or the
    open form; the suffix form with any int64 -/
def ParserReq (o : RangeReq) : Prop :=
  InI64 o.start ∧ InI64 o.«end» ∧
  (o.fromEnd = false → 0 ≤ o.start ∧ (o.«end» = RangeNoEnd ∨ o.start ≤ o.«end»))

theorem subW_eq {a b : Int} (h : InI64 (a - b)) : subW a b = a - b := wrap_id h
theorem addW_eq {a b : Int} (h : InI64 (a + b)) : addW a b = a + b := wrap_id h

def accept (size : Int) (p : Int × Int) : RangeOut :=
  if p.1 < 0 ∨ p.2 < 0 ∨ p.1 ≥ size then none
  else if addW p.1 p.2 > size then some (p.1, subW size p.1)
  else some p

theorem accept_none {size : Int} {p : Int × Int} (h : p.1 < 0 ∨ p.2 < 0 ∨ p.1 ≥ size) :
    accept size p = none := if_pos h

/-- so the clipping branch of `Range()` is dead for every pair computed from an int64 request -/
theorem accept_some {size : Int} {p : Int × Int} (hs : size ≤ I64.max)
    (h : 0 ≤ p.1 ∧ 0 ≤ p.2 ∧ p.1 < size ∧ p.1 + p.2 ≤ size) : accept size p = some p := by
  unfold I64.max at hs
  rw [accept, if_neg (by omega), addW_eq (by unfold InI64; omega), if_neg (by omega)]

theorem range_suffix_eq {size s e : Int} (hs : 0 ≤ size ∧ size ≤ I64.max) (he : InI64 e) :
    range size ⟨s, e, true⟩ = if 0 < e ∧ e ≤ size then some (size - e, e) else none := by
  have hs' := hs; unfold I64.max at hs'
  unfold InI64 at he
  show accept size (subW size e, subW size (subW size e)) = _
  split
  · rw [subW_eq (by unfold InI64; omega), subW_eq (by unfold InI64; omega), Int.sub_sub_self,
      accept_some hs.2 (by omega)]
  · have : subW size e < 0 ∨ subW size e ≥ size := by unfold subW wrap; omega
    exact accept_none (this.elim Or.inl fun h => Or.inr (Or.inr h))

theorem range_open_eq {size s : Int} (hs : 0 ≤ size ∧ size ≤ I64.max) :
    range size ⟨s, RangeNoEnd, false⟩ = if 0 ≤ s ∧ s < size then some (s, size - s) else none := by
  have hs' := hs; unfold I64.max at hs'
  show accept size (s, subW size s) = _
  split
  · rw [subW_eq (by unfold InI64; omega), accept_some hs.2 (by omega)]
  · exact accept_none (by omega)

theorem range_closed_eq {size s e : Int} (hs : 0 ≤ size ∧ size ≤ I64.max) (he : 0 ≤ e ∧ e ≤ I64.max) :
    range size ⟨s, e, false⟩ =
      if 0 ≤ s ∧ s < size ∧ s ≤ e + 1 then some (s, min e (size - 1) - s + 1) else none := by
  have hs' := hs; have he' := he; unfold I64.max at hs' he'
  have hr : range size ⟨s, e, false⟩ =
      accept size (s, addW (subW (if e ≥ size then subW size 1 else e) s) 1) := by
    have : e ≠ -1 := by omega
    simp [range, accept, RangeNoEnd, this]
  have hl : 0 ≤ s → s < size →
      addW (subW (if e ≥ size then subW size 1 else e) s) 1 = min e (size - 1) - s + 1 := fun _ _ => by
    rw [subW_eq (a := size) (by unfold InI64; omega),
      show (if e ≥ size then size - 1 else e) = min e (size - 1) by omega,
      subW_eq (by unfold InI64; omega), addW_eq (by unfold InI64; omega)]
  rw [hr]
  by_cases h : 0 ≤ s ∧ s < size ∧ s ≤ e + 1
  · rw [if_pos h, hl h.1 h.2.1, accept_some hs.2 (by omega)]
  · rw [if_neg h]
    apply accept_none
    by_cases h0 : 0 ≤ s ∧ s < size
    · rw [hl h0.1 h0.2]; omega
    · omega

/-- **range_eq_clip**: for every object size below 2^63 and every request the parser can produce
    (all of int64, 2^63-1 included) `Range()` yields exactly the specification's clipped interval
    as (start, length), and InvalidRange exactly when the specification does. -/
theorem range_eq_clip (size : Int) (o : RangeReq)
    (hs : 0 ≤ size ∧ size ≤ I64.max) (hp : ParserReq o) :
    range size o = clipSL size o := by
  obtain ⟨s, e, f⟩ := o
  obtain ⟨-, he, hf⟩ := hp
  cases f
  · obtain ⟨h0, h1⟩ := hf rfl
    simp only [RangeNoEnd] at h0 h1
    by_cases hn : e = RangeNoEnd
    · subst hn
      rw [range_open_eq hs]
      simp only [clipSL, clip, Bool.false_eq_true, if_false, if_true]
      split <;> simp only [Option.map]
      congr 2; omega
    · have : 0 ≤ e := by unfold RangeNoEnd at hn; omega
      rw [range_closed_eq hs ⟨this, he.2⟩]
      have : (0 ≤ s ∧ s < size ∧ s ≤ e + 1) ↔ (0 ≤ s ∧ s ≤ e ∧ s < size) := by omega
      simp only [clipSL, clip, hn, Bool.false_eq_true, if_false, this]
      split <;> rfl
  · rw [range_suffix_eq hs he]
    simp only [clipSL, clip, if_true]
    split <;> simp only [Option.map]
    congr 2; omega

/-- **range_safe**: for every request whose explicit end is not below -1 (the parser never
    produces one; the Go API could) an accepted range lies inside the object, so the slice
    expression of the memory and bolt backends cannot panic and the seek of the fs backends is in
    bounds. -/
theorem range_safe (size : Int) (o : RangeReq) (hs : 0 ≤ size ∧ size ≤ I64.max)
    (ho : InI64 o.start ∧ InI64 o.«end» ∧ (o.fromEnd = false → -1 ≤ o.«end»)) (s l : Int)
    (h : range size o = some (s, l)) :
    0 ≤ s ∧ 0 ≤ l ∧ s + l ≤ size ∧ s < size := by
  obtain ⟨st, e, f⟩ := o
  obtain ⟨-, he, hf⟩ := ho
  cases f
  · have := hf rfl
    by_cases hn : e = RangeNoEnd
    · subst hn
      rw [range_open_eq hs] at h
      split at h <;> cases h
      omega
    · have : 0 ≤ e := by unfold RangeNoEnd at hn; simp only at this; omega
      rw [range_closed_eq hs ⟨this, he.2⟩] at h
      split at h <;> cases h
      omega
  · rw [range_suffix_eq hs he] at h
    split at h <;> cases h
    omega

/-- the guard of `range_safe` is needed: through the Go API (never through a header) an
    explicit end below -1 can produce a range outside the object. Recorded, not judged by C11. -/
theorem range_api_negative_end_counterexample :
    range 10 ⟨2, -9223372036854775808, false⟩ = some (2, 9223372036854775807) := by decide +kernel

/-- the bytes at inclusive offsets `first..last` of `data` -/
def bytesOf (data : Bytes) (first last : Int) : Bytes :=
  (data.drop first.toNat).take (last - first + 1).toNat

/-- **slice_exact**: with an accepted (start, length) the slice expression of the memory/bolt
    backends does not panic and the Seek+LimitReader of the fs backends yields the same bytes. -/
theorem slice_exact (data : Bytes) (s l : Int) (hd : (data.length : Int) ≤ I64.max)
    (h : 0 ≤ s ∧ 0 ≤ l ∧ s + l ≤ data.length) :
    sliceGo data s l = some (bytesOf data s (s + l - 1)) ∧
    seekLimit data s l = bytesOf data s (s + l - 1) := by
  unfold I64.max at hd
  have e : s + l - 1 - s + 1 = l := by omega
  have e1 : s + l - s = l := by omega
  have hb : 0 ≤ s ∧ s ≤ s + l ∧ s + l ≤ ↑data.length := by omega
  rw [sliceGo, addW_eq (by unfold InI64; omega), if_pos hb, bytesOf, e, e1]
  exact ⟨rfl, rfl⟩

/-- Content-Length = bytes sent -/
theorem slice_length (data : Bytes) (s l : Int)
    (h : 0 ≤ s ∧ 0 ≤ l ∧ s + l ≤ data.length) :
    ((bytesOf data s (s + l - 1)).length : Int) = l := by
  have e : s + l - 1 - s + 1 = l := by omega
  rw [bytesOf, e, List.length_take, List.length_drop, Nat.min_eq_left (by omega)]
  exact Int.toNat_of_nonneg h.2.1

/-- `ObjectRange.writeHeader`: Content-Range "bytes first-last/size", Content-Length -/
def writeHeader (sz : Int) (r : Option (Int × Int)) : Option (Int × Int × Int) × Int :=
  match r with
  | some (s, l) => (some (s, subW (addW s l) 1, sz), l)
  | none => (none, sz)

/-- **content_range_exact**: the Content-Range announced for an accepted request is
    exactly the clipped interval of the specification and Content-Length its byte count. -/
theorem content_range_exact (size : Int) (o : RangeReq)
    (hs : 0 ≤ size ∧ size ≤ I64.max) (hp : ParserReq o) (f l : Int)
    (hc : clip size o = some (f, l)) :
    writeHeader size (range size o) = (some (f, l, size), l - f + 1) := by
  have hr := range_eq_clip size o hs hp
  simp only [clipSL, hc, Option.map] at hr
  have := range_safe size o hs ⟨hp.1, hp.2.1, fun hf => by
    have := hp.2.2 hf; unfold RangeNoEnd at this; omega⟩ f (l - f + 1) hr
  unfold I64.max at hs
  have e : f + (l - f + 1) - 1 = l := by omega
  rw [hr, writeHeader, addW_eq (by unfold InI64; omega), subW_eq (by unfold InI64; omega), e]

theorem applySign_in {neg : Bool} {m : Nat} {n : Int} (h : applySign neg m = some n) : InI64 n := by
  unfold applySign at h
  unfold InI64
  cases neg <;> obtain ⟨_, ⟨⟩⟩ := Option.ite_none_right_eq_some.mp h <;> omega
theorem parseInt64_in {s : Bytes} {n : Int} (h : parseInt64 s = some n) : InI64 n := by
  unfold parseInt64 at h
  split at h
  · simp at h
  · split at h
    · obtain ⟨m, _, hm⟩ := Option.bind_eq_some_iff.mp h
      exact applySign_in hm
    · split at h <;>
      (obtain ⟨m, _, hm⟩ := Option.bind_eq_some_iff.mp h
       exact applySign_in hm)

/-- **parse_gives_parserReq**: whatever the header text, a request the parser accepts satisfies
    the hypothesis of `range_eq_clip`. -/
theorem parse_gives_parserReq (h : Bytes) (o : RangeReq)
    (hp : parseRangeHeader h = .ok (some o)) : ParserReq o := by
  unfold parseRangeHeader at hp
  by_cases h0 : h.isEmpty
  · rw [if_pos h0] at hp; cases hp
  simp only [if_neg h0, Res.ite_err_eq_ok] at hp
  obtain ⟨-, -, -, hp⟩ := hp
  split at hp
  · cases hp
  generalize Bytes.trimSpace (List.take _ _) = start, Bytes.trimSpace (List.drop _ _) = e at hp
  -- `by_cases` on the two conditions: `split at hp` is several times dearer here
  by_cases hs : start.isEmpty
  · -- suffix form "-n"
    rw [if_pos hs] at hp
    split at hp
    · cases hp
    · rename_i n hn
      cases hp
      exact ⟨(by decide : InI64 0), parseInt64_in hn, nofun⟩
  · rw [if_neg hs] at hp
    split at hp
    · cases hp
    rename_i st hst
    simp only [Res.ite_err_eq_ok] at hp
    obtain ⟨h1, hp⟩ := hp
    by_cases he : (!e.isEmpty) = true
    · -- closed form "st-en"
      rw [if_pos he] at hp
      split at hp
      · cases hp
      rename_i en hen
      simp only [Res.ite_err_eq_ok] at hp
      obtain ⟨h2, hp⟩ := hp
      cases hp
      exact ⟨parseInt64_in hst, parseInt64_in hen,
        fun _ => ⟨Int.not_lt.mp h1, Or.inr (Int.not_lt.mp h2)⟩⟩
    · -- open form "st-"
      rw [if_neg he] at hp
      cases hp
      exact ⟨parseInt64_in hst, (by decide : InI64 RangeNoEnd),
        fun _ => ⟨Int.not_lt.mp h1, Or.inl rfl⟩⟩

/-- **header_end_to_end**: for every Range header text and every object, the (start, length)
    handed to the backend is the specification's clipped interval of the parsed request. -/
theorem header_end_to_end (h : Bytes) (o : RangeReq) (size : Int)
    (hs : 0 ≤ size ∧ size ≤ I64.max) (hp : parseRangeHeader h = .ok (some o)) :
    range size o = clipSL size o :=
  range_eq_clip size o hs (parse_gives_parserReq h o hp)

/-! Non-vacuity, the int64 boundary included. -/
example : ParserReq ⟨2, 9223372036854775807, false⟩ := by
  unfold ParserReq InI64 RangeNoEnd; simp
example : range 10 ⟨2, 9223372036854775807, false⟩ = some (2, 8) := by decide +kernel
example : range 10 ⟨0, 9223372036854775807, false⟩ = some (0, 10) := by decide +kernel
example : range 10 ⟨0, 3, true⟩ = some (7, 3) := by decide +kernel
example : range 10 ⟨0, 11, true⟩ = none := by decide +kernel
example : range 0 ⟨0, -1, false⟩ = none := by decide +kernel
example : parseRangeHeader ([98, 121, 116, 101, 115, 61, 32, 50, 32, 45, 32, 53, 32] : Bytes)  -- "bytes= 2 - 5 "
     = .ok (some ⟨2, 5, false⟩) := by decide +kernel
example : parseRangeHeader ([98, 121, 116, 101, 115, 61, 49, 45, 50, 44, 52, 45, 53] : Bytes)  -- "bytes=1-2,4-5"
     = .err .NotImplemented := by decide +kernel

end GFS.Props.C11
