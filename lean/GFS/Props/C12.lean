import GFS.Spec.ChunkSpec
/-
  C12 — aws-chunked uploads decode to the payload however they arrive.  Here: what the walks over
  `read` of C12F (whole streams) and C12T (truncated streams) share and what needs no invariant:
  the inner reader, single steps of the decoder, the size field.
-/
namespace GFS.Props.C12
open GFS.Model.Chunk GFS.Spec.ChunkSpec

theorem readLen_le (cut : Nat → Bool) (a k : Nat) : readLen cut a k ≤ k ∧ readLen cut a k ≤ a := by
  induction a generalizing k with
  | zero => simp [readLen]
  | succ a ih =>
    cases k with
    | zero => simp [readLen]
    | succ k =>
      unfold readLen
      split
      · exact ⟨Nat.le_add_left 1 k, Nat.le_add_left 1 a⟩
      · rw [Nat.add_comm]; exact ⟨Nat.succ_le_succ (ih k).1, Nat.succ_le_succ (ih k).2⟩

theorem readLen_pos (cut : Nat → Bool) {a k : Nat} (ha : 0 < a) (hk : 0 < k) : 0 < readLen cut a k := by
  cases a with
  | zero => omega
  | succ a =>
    cases k with
    | zero => omega
    | succ k => unfold readLen; split <;> omega

theorem skip_append {tr X : Bytes} {n : Nat} (h : tr.length = n) : skip n (tr ++ X) = some X := by
  unfold skip
  simp [← h]

theorem skip_prefix {k : Nat} {a X inp t : Bytes} (ha : a.length = k) (h : a ++ X = inp ++ t) :
    skip k inp = none ∨ ∃ inp', skip k inp = some inp' ∧ X = inp' ++ t := by
  by_cases hl : k ≤ inp.length
  · refine Or.inr ⟨inp.drop k, if_pos hl, ?_⟩
    have := congrArg (List.drop k) h
    rwa [List.drop_append_of_le_length (by omega), List.drop_append_of_le_length hl,
      List.drop_eq_nil_of_le (by omega), List.nil_append] at this
  · exact Or.inl (if_neg hl)

theorem read_zero (cfg : Cfg) (fuel : Nat) (st : St) (inp acc : Bytes) :
    GFS.Model.Chunk.read cfg fuel st inp 0 acc = ⟨acc, st, inp, none, false⟩ := by
  cases fuel <;> simp [GFS.Model.Chunk.read]

theorem read_data (cfg : Cfg) (fuel : Nat) {st : St} {inp : Bytes} {want : Nat} (acc : Bytes)
    (hw : want ≠ 0) (hr : st.remain > 0) (hi : inp ≠ []) :
    ∃ n : Nat, 0 < n ∧ (n : Int) ≤ st.remain ∧ n ≤ inp.length ∧
      GFS.Model.Chunk.read cfg (fuel + 1) st inp want acc =
        if (inp.drop n).isEmpty && cfg.endWithData then
          ⟨acc ++ inp.take n, { st with remain := st.remain - n }, inp.drop n, some cfg.tail.toEnd, false⟩
        else GFS.Model.Chunk.read cfg fuel { st with remain := st.remain - n } (inp.drop n) (want - n) (acc ++ inp.take n) := by
  obtain ⟨x, xs, rfl⟩ := List.exists_cons_of_ne_nil hi
  rw [GFS.Model.Chunk.read, if_neg hw, if_pos hr]
  generalize hk : (if st.remain > want then want else st.remain.toNat) = k
  have hk' : 0 < k ∧ k ≤ want ∧ (k : Int) ≤ st.remain := by rw [← hk]; split <;> omega
  have := readLen_le cfg.cut (x :: xs).length k
  exact ⟨_, readLen_pos _ (by simp) hk'.1, by omega, this.2, rfl⟩

theorem isHex_props {c : UInt8} (h : isHex c = true) :
    isScanSpace c = false ∧ ¬ (c ≥ 128) ∧ (c == 10) = false ∧ (c == 43) = false ∧ (c == 45) = false := by
  have := forall_u8 (fun c => !isHex c || (!isScanSpace c && !(decide (c ≥ 128)) && !(c == 10) && !(c == 43)
    && !(c == 45))) (by decide +kernel) c
  simp only [h, Bool.not_true, Bool.false_or, Bool.and_eq_true, Bool.not_eq_true', decide_eq_false_iff_not] at this
  obtain ⟨⟨⟨⟨a, b⟩, c'⟩, d⟩, e⟩ := this
  exact ⟨a, b, c', d, e⟩

theorem scanDigits_append {ds : Bytes} (rest : Bytes) (h : ds.all isHex = true) (acc : Nat) :
    scanDigits (ds ++ rest) acc = scanDigits rest (ds.foldl (fun a c => a * 16 + hexDigitVal c) acc) := by
  induction ds generalizing acc with
  | nil => rfl
  | cons d ds ih =>
    simp only [List.all_cons, Bool.and_eq_true] at h
    simp only [List.cons_append, scanDigits, h.1, if_true, List.foldl_cons]
    exact ih h.2 _

theorem scanHexSemi_hex {d : UInt8} (ds : Bytes) (hd : isHex d = true) (v : Nat) :
    (scanDigits (d :: ds) 0 = (v, []) → scanHexSemi (d :: ds) = .err) ∧
    (∀ rest, scanDigits (d :: ds) 0 = (v, 59 :: rest) → v ≤ 9223372036854775807 →
      scanHexSemi (d :: ds) = .ok v rest) := by
  obtain ⟨p1, p2, p3, p4, p5⟩ := isHex_props hd
  unfold scanHexSemi
  simp only [skipScanSpace, p1, p2, p3, p4, p5, hd, Bool.false_eq_true, if_false, Bool.not_true]
  constructor
  · intro h; rw [h]; exact ite_self _
  · intro rest h hv; rw [h, if_neg (by simp [hv])]; rfl

/-- **scan_wellformed_header**: a size field of one or more hex digits (either case, leading
    zeros allowed) whose value fits int64, followed by ';', is read as exactly that value and
    consumes exactly up to and including the ';'. -/
theorem scan_wellformed_header (ds rest : Bytes) (hne : ds ≠ []) (hall : ds.all isHex = true)
    (hv : hexValue ds ≤ 9223372036854775807) :
    scanHexSemi (ds ++ 59 :: rest) = .ok (hexValue ds) rest := by
  cases ds with
  | nil => exact absurd rfl hne
  | cons d ds' =>
    have hd : isHex d = true := by simp only [List.all_cons, Bool.and_eq_true] at hall; exact hall.1
    exact (scanHexSemi_hex _ hd _).2 rest (scanDigits_append (59 :: rest) hall 0) hv
/-! Non-vacuity: "1f;" is such a header. -/
example : scanHexSemi ([49, 102] ++ 59 :: [7, 7]) = .ok 31 [7, 7] := by decide +kernel

end GFS.Props.C12
