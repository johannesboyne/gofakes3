import GFS.Props.C04D
/-
  C04 from an arbitrary marker, for listings with a delimiter (on the domain of Props/C04D): a walk
  started at ANY marker — a key of the bucket, a string between two keys, a string beyond the last
  key — lists exactly the objects whose key is greater than the marker, once each.
-/
namespace GFS.Props.C04M
open GFS.Model GFS.Bytes GFS.Props.C03G GFS.Props.C04D GFS.Props.C04W

/-- **walk_from_marker_exact**: with a delimiter (any prefix in the statement's domain),
    any page size ≥ 1 and ANY start marker, the walk terminates on an untruncated page and its
    pages' Contents and CommonPrefixes concatenate to exactly those of the unpaginated listing of
    the objects whose key is greater than the marker. -/
theorem walk_from_marker_exact (m : Mem) (b : Bytes) (bk : Bucket) (hb : SMap.find m.buckets b = some bk)
    (hasP : Bool) (d : UInt8) (pfx : Bytes) (mk : Int) (hmk : 1 ≤ mk) (marker : Bytes) (hm : marker ≠ [])
    (hsorted : SMap.Sorted bk.objects) (hinv : ∀ q ∈ bk.objects, q.2.data ≠ none ∧ q.1 ≠ [])
    (hdom : ∀ q ∈ bk.objects, q.1.head? ≠ some d ∧ q.1.getLast? ≠ some d) (hp : pfx.head? ≠ some d) :
    let p : Prefix := ⟨hasP, pfx, true, d⟩
    let after := bk.objects.filter (fun q => lt marker q.1)
    let pages := walk m b p mk (bk.objects.length + 1) marker
    pages.flatMap (·.contents) = contentsOf p after ∧
    pages.flatMap (·.prefixes) = addAll [] (cpsOf p after) ∧
    pages.getLast?.map (·.truncated) = some false := by
  intro p after pages
  obtain ⟨g1, g2, g3, _⟩ := walk_from m b bk hb p mk hmk hsorted hinv (cp_ne_nil hasP hdom hp)
    (sep_of_sorted hasP hsorted hdom hp) (bk.objects.length + 1) after marker (ListLoop.afterMarker_of_ne _ hm)
    (Nat.lt_succ_of_le (List.length_filter_le _ _))
  exact ⟨g1, g2, g3⟩

/-! Non-vacuity: the bucket of C04D's example, started at marker "a/y" (a delete-marked key) and
    at "aa" (no such key). -/
example : ((walk GFS.Props.C04D.exM [120] ⟨false, [], true, 47⟩ 1 6 [97, 47, 121]).map (fun r => (r.contents.map (·.key), r.prefixes))) =
    [([], [[97, 47]]), ([[97, 98]], []), ([], [[98, 47]])] := by decide +kernel
example : ((walk GFS.Props.C04D.exM [120] ⟨false, [], true, 47⟩ 2 6 [97, 97]).map (fun r => (r.contents.map (·.key), r.prefixes))) =
    [([[97, 98]], [[98, 47]])] := by decide +kernel

end GFS.Props.C04M
