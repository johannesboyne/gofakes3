import GFS.Props.BoltR
/-
  s3bolt's bookkeeping is consistent after every history: a top-level bolt bucket other than
  `_meta` exists exactly when `_meta` holds the record `bucket/<name>` for it — the state a
  restarted server can serve (C15: `ListBuckets` reads each bucket's record).  It holds in every
  committed state because, in the model as in the code, every Backend method is ONE bolt
  transaction (checked against the source: `C07Gen.bolt_sections`).
-/
namespace GFS.Props.BoltM
open GFS.Model GFS.Model.Bolt GFS.SMap GFS.Spec.S3 GFS.Props.BoltR

/-- `_meta` holds the record of S3 bucket `name` -/
def hasRec (db : DB) (name : Bytes) : Bool :=
  match SMap.find db metaName with
  | some mkv => (SMap.find mkv (metaKey name)).isSome
  | none => false

/-- buckets and bookkeeping agree -/
def MetaOK (db : DB) : Prop := ∀ c, c ≠ metaName → (SMap.find db c).isSome = hasRec db c

theorem metaOK_empty : MetaOK DB.empty := by intro c _; simp [DB.empty, hasRec]

theorem metaKey_inj {a b : Bytes} (h : metaKey a = metaKey b) : a = b := List.append_cancel_left h

theorem hasRec_eq (db : DB) (c : Bytes) : hasRec db c = (SMap.find (metaKV db) (metaKey c)).isSome := by
  unfold hasRec metaKV
  cases SMap.find db metaName <;> rfl

theorem metaOK_insert_existing {db : DB} {b : Bytes} {kv' : SMap BVal} (hb : b ≠ metaName)
    (he : (SMap.find db b).isSome = true) (h : MetaOK db) : MetaOK (SMap.insert db b kv') := by
  intro c hc
  rw [hasRec_eq, metaKV, find_insert, find_insert, if_neg hb, ← metaKV, ← hasRec_eq, ← h c hc]
  split
  · next e => rw [← e, he]; rfl
  · rfl

/-- `r = some _`: the record of `b` was written and `b` created; `r = none`: deleted and removed -/
theorem metaOK_record {db db' : DB} {b : Bytes} (r : Option BVal) (h : MetaOK db)
    (hb : (SMap.find db' b).isSome = r.isSome) (hne : ∀ c, c ≠ metaName → c ≠ b → SMap.find db' c = SMap.find db c)
    (hm : ∀ j, SMap.find (metaKV db') j = if metaKey b = j then r else SMap.find (metaKV db) j) :
    MetaOK db' := by
  intro c hc
  rw [hasRec_eq, hm]
  by_cases e : b = c
  · rw [if_pos (congrArg metaKey e), ← e, hb]
  · rw [if_neg (fun x => e (metaKey_inj x)), hne c hc (Ne.symm e), h c hc, hasRec_eq]

theorem metaOK_createBucket {db : DB} {b : Bytes} (hv : validateBucketName b = true) (h : MetaOK db) :
    MetaOK (createBucket db b).1 := by
  obtain ⟨hbm, _⟩ := valid_ne_meta hv
  rw [createBucket_eq db hv]
  split
  · exact h
  · refine metaOK_record (some .bucketRec) h (by rw [find_insert_self]; rfl) (fun c hc hcb => ?_) (fun j => ?_)
    · rw [find_insert_ne (fun x => hcb x.symm), find_insert_ne (fun x => hc x.symm), ensureTop_find_ne _ hc]
    · rw [metaKV, find_insert_ne hbm, find_insert_self, Option.getD_some, find_insert]

theorem metaOK_deleteBucket (db : DB) (b : Bytes) (h : MetaOK db) : MetaOK (deleteBucket db b).1 := by
  by_cases hbm : b = metaName
  · rw [deleteBucket, if_pos (beq_iff_eq.mpr hbm)]; exact h
  · rw [deleteBucket_eq db hbm]
    cases SMap.find db b with
    | none => exact h
    | some kv =>
      simp only
      split
      · refine metaOK_record none h (by rw [find_erase_self]; rfl) (fun c hc hcb => ?_) (fun j => ?_)
        · rw [find_erase_ne (fun x => hcb x.symm), dropRecord_eq, find_insert_ne (fun x => hc x.symm),
            ensureTop_find_ne _ hc]
        · rw [metaKV, find_erase_ne hbm, dropRecord_eq, find_insert_self, Option.getD_some, find_erase]
      · exact h

theorem metaOK_boltDelete {db : DB} {b : Bytes} (k : Bytes) {kv : SMap BVal} (hb : b ≠ metaName) (hf : SMap.find db b = some kv)
    (h : MetaOK db) : MetaOK (boltDelete db b k) := by
  rw [boltDelete_eq hf k]
  exact metaOK_insert_existing hb (by rw [hf]; rfl) h

theorem metaOK_putObject (md5 : Bytes → Bytes) (db : DB) (b k : Bytes) (md : Meta) (body : Bytes) (h : MetaOK db) :
    MetaOK (putObject md5 db b k md body).1 := by
  rw [putObject_eq]
  rcases s3Bucket_cases db b with ⟨h1, _⟩ | ⟨kv, hb, hf, h1, _⟩
  · rw [h1]; exact h
  · rw [h1]
    simp only
    split
    · exact h
    · exact metaOK_insert_existing hb (by rw [hf]; rfl) h

theorem metaOK_deleteObject (db : DB) (b k : Bytes) (h : MetaOK db) : MetaOK (deleteObject db b k).1 := by
  rw [deleteObject_eq]
  rcases s3Bucket_cases db b with ⟨h1, _⟩ | ⟨kv, hb, hf, h1, _⟩
  · rw [h1]; exact h
  · rw [h1]; exact metaOK_boltDelete k hb hf h

theorem metaOK_deleteMulti (db : DB) (b : Bytes) (ks : List Bytes) (h : MetaOK db) : MetaOK (deleteMulti db b ks).1 := by
  rw [deleteMulti_eq]
  rcases s3Bucket_cases db b with ⟨h1, _⟩ | ⟨kv, hb, hf, h1, _⟩
  · rw [h1]; exact h
  · rw [h1]
    refine (Fold.foldl_inv (P := fun db => (SMap.find db b).isSome = true ∧ MetaOK db) ks db
      (fun db k _ hd => ?_) ⟨by rw [hf]; rfl, h⟩).2
    obtain ⟨kv', hf'⟩ := Option.isSome_iff_exists.mp hd.1
    exact ⟨boltDelete_find db b k b hd.1, metaOK_boltDelete k hb hf' hd.2⟩

theorem metaOK_copyObject (md5 : Bytes → Bytes) (db : DB) (sb sk dstB dstK : Bytes) (md : Meta) (h : MetaOK db) :
    MetaOK (copyObject md5 db sb sk dstB dstK md).1 := by
  cases hg : getObject db sb sk with
  | err c | panic s => simp only [copyObject, hg]; exact h
  | ok src =>
    rw [(copyObject_ok md5 dstB dstK md hg).1]
    exact metaOK_putObject md5 db dstB dstK md src.body h

theorem withBucket_fst {α} {P : DB → Prop} {db : DB} {b : Bytes} {f : Unit → DB × Res α} (h : P db) (hf : P (f ()).1) :
    P (withBucket db b f).1 := by
  unfold withBucket
  split
  · exact hf
  · exact h

set_option linter.unusedVariables false in
/-- **bookkeeping_step**: every request keeps buckets and bookkeeping in agreement.  `OpOk` is not
    needed: a name that fails the create-bucket rule is refused before anything is written, and a
    `Put` that bbolt refuses (empty key) is rolled back -/
theorem bookkeeping_step (md5 : Bytes → Bytes) (db : DB) (op : Op) (hop : OpOk op) (h : MetaOK db) :
    MetaOK (handle md5 db op).1 := by
  cases op with
  | createBucket b =>
    simp only [handle]
    split
    · exact h
    · rename_i hv
      rw [lift_fst]
      exact metaOK_createBucket (by simpa using hv) h
  | headBucket b => exact withBucket_fst h h
  | deleteBucket b => exact withBucket_fst h (by rw [lift_fst]; exact metaOK_deleteBucket db b h)
  | listBuckets => exact h
  | put b k body =>
    refine withBucket_fst h ?_
    split
    · exact h
    · rw [lift_fst]; exact metaOK_putObject md5 db b k [] body h
  | get b k | head b k => exact withBucket_fst h (by rw [lift_fst]; exact h)
  | delete b k => exact withBucket_fst h (by rw [lift_fst]; exact metaOK_deleteObject db b k h)
  | deleteMulti b ks => exact withBucket_fst h (by rw [lift_fst]; exact metaOK_deleteMulti db b ks h)
  | copy sb sk dstB dstK =>
    refine withBucket_fst h ?_
    split
    · exact h
    · cases getObject db sb sk with
      | err c | panic s => exact h
      | ok src => simp only; rw [lift_fst]; exact metaOK_copyObject md5 db sb sk dstB dstK _ h

/-- **bookkeeping_always_consistent**: after every finite sequence of bucket and object requests,
    from any database in which `_meta` holds a record for exactly the S3 buckets that exist (the
    empty file: `metaOK_empty`), it does so again — the records `ListBuckets` of a restarted
    server takes each bucket's CreationDate from. -/
theorem bookkeeping_always_consistent (md5 : Bytes → Bytes) (ops : List Op) (hops : ∀ op ∈ ops, OpOk op) :
    ∀ db, MetaOK db → MetaOK (boltRun md5 db ops).1 := fun db h =>
  Fold.trace_inv (f := fun db op => ((handle md5 db op).1, ansOf (handle md5 db op).2)) ops db
    (fun db op hop h => bookkeeping_step md5 db op (hops op hop) h) h

/-! Non-vacuity: create two buckets, fill one, delete the other: records for exactly the live one. -/
example : let db := (boltRun id DB.empty [.createBucket b1, .createBucket [98, 107, 50], .put b1 [107] [1], .deleteBucket [98, 107, 50]]).1
    hasRec db b1 = true ∧ hasRec db [98, 107, 50] = false ∧ (SMap.find db b1).isSome = true ∧ (SMap.find db [98, 107, 50]).isSome = false := by
  decide +kernel

end GFS.Props.BoltM
