import GFS.Props.C10
/-
  C02 — every operation sequence follows S3 bucket/object semantics.
  This file: the laws of the statement proved directly on the backend model, for every state
  (no invariant needed): read-your-write, absent bucket, re-creation, frame.  `deleted_is_NoSuchKey`
  alone is for a never-versioned bucket and a key without archived versions: on a Suspended bucket
  a delete uncovers the newest archived version, which the next read returns.
-/
namespace GFS.Props.C02
open GFS.Model

/-- re-creating an existing bucket answers BucketAlreadyExists and changes nothing -/
theorem recreate_is_BucketAlreadyExists (m : Mem) (b : Bytes) (h : m.bucketExists b = true) :
    m.createBucket b = (m, .err .BucketAlreadyExists) := by
  unfold Mem.createBucket; unfold Mem.bucketExists at h; simp [h]

/-- a created bucket exists; every other bucket is as before -/
theorem create_then_exists (m : Mem) (b : Bytes) (h : m.bucketExists b = false) :
    (m.createBucket b).2 = .ok () ∧ (m.createBucket b).1.bucketExists b = true ∧
    ∀ b', b' ≠ b → (m.createBucket b).1.bucketExists b' = m.bucketExists b' := by
  unfold Mem.bucketExists at h
  unfold Mem.createBucket Mem.bucketExists
  simp only [h, Bool.false_eq_true, if_false]
  refine ⟨trivial, ?_, ?_⟩
  · simp [SMap.find_insert_self]
  · intro b' hb; simp [SMap.find_insert_ne (Ne.symm hb)]

/-- every object operation on an absent bucket answers NoSuchBucket and changes nothing -/
theorem absent_bucket_is_NoSuchBucket (md5 : Bytes → Bytes) (m : Mem) (b : Bytes) (k : Key) (md : Meta) (body : Bytes)
    (h : SMap.find m.buckets b = none) :
    m.get b k = .err .NoSuchBucket ∧ m.head b k = .err .NoSuchBucket ∧
    m.put md5 b k md body = (m, .err .NoSuchBucket) ∧ m.delete b k = (m, .err .NoSuchBucket) ∧
    m.deleteBucket b = (m, .err .NoSuchBucket) ∧ (∀ ks, m.deleteMulti b ks = (m, .err .NoSuchBucket)) := by
  simp [Mem.get, Mem.head, Mem.current, Mem.put, Mem.putCommit, Mem.delete, Mem.deleteBucket, Mem.deleteMulti, h]

/-- deleting a non-empty bucket answers BucketNotEmpty and changes nothing; an empty one goes -/
theorem delete_bucket_cases (m : Mem) (b : Bytes) (bk : Bucket) (h : SMap.find m.buckets b = some bk) :
    (bk.objects.isEmpty = false → m.deleteBucket b = (m, .err .BucketNotEmpty)) ∧
    (bk.objects.isEmpty = true → (m.deleteBucket b).2 = .ok () ∧ (m.deleteBucket b).1.bucketExists b = false) := by
  constructor
  · intro he; simp [Mem.deleteBucket, h, he]
  · intro he; simp [Mem.deleteBucket, h, he, Mem.bucketExists, SMap.find_erase_self]

/-- **read_your_write**: after an acknowledged put, a read of the key returns exactly the bytes with
    the digest of the bytes (the headers sent: `C01.put_get_roundtrip`) -/
theorem read_your_write (md5 : Bytes → Bytes) (m : Mem) (b : Bytes) (k : Key) (md : Meta) (body : Bytes)
    (bk : Bucket) (h : SMap.find m.buckets b = some bk) :
    ∃ v, (m.put md5 b k md body).1.get b k = .ok v ∧ v.body = body ∧ v.hash = md5 body ∧ v.marker = false :=
  ⟨_, Mem.get_putCommit_self md5 h k _ body, rfl, rfl, rfl⟩

/-- **frame (objects)**: a put to `(b,k)` does not change what any other `(b',k')` returns -/
theorem put_frame (md5 : Bytes → Bytes) (m : Mem) (b b' : Bytes) (k k' : Key) (md : Meta) (body : Bytes)
    (hne : b ≠ b' ∨ k ≠ k') :
    (m.put md5 b k md body).1.get b' k' = m.get b' k' :=
  C10.put_frame md5 m b b' k k' md body hne

/-- **deleted_is_NoSuchKey** (never-versioned bucket): after delete the key reads as NoSuchKey -/
theorem deleted_is_NoSuchKey (m : Mem) (b : Bytes) (k : Key) (bk : Bucket)
    (h : SMap.find m.buckets b = some bk) (hv : bk.versioning = .none)
    (hinv : ∀ o, SMap.find bk.objects k = some o → o.versions = []) :
    (m.delete b k).2 = .ok (false, none) ∧ (m.delete b k).1.get b k = .err .NoSuchKey := by
  simp only [Mem.delete, h, Bucket.rm_eq_erase (by rw [hv]; nofun) hinv]
  exact ⟨trivial, by simp [Mem.get, Mem.current, SMap.find_insert_self, SMap.find_erase_self]⟩

/-- **delete_missing_ok**: deleting a key that is not there succeeds and changes no answer -/
theorem delete_missing_ok (m : Mem) (b : Bytes) (k k' : Key) (bk : Bucket)
    (h : SMap.find m.buckets b = some bk) (ho : SMap.find bk.objects k = none) :
    (m.delete b k).2 = .ok (false, none) ∧ (m.delete b k).1.get b k' = m.get b k' := by
  simp only [Mem.delete, h, Bucket.rm_eq, ho]
  exact ⟨trivial, C10.get_insert_bucket h fun _ => rfl⟩

/-! Non-vacuity: a store with a bucket (empty, never versioned) meets the hypotheses above. -/
example : SMap.find (Mem.createBucket Mem.empty [98, 107, 116]).1.buckets [98, 107, 116] = some ⟨.none, []⟩ := by
  rfl

end GFS.Props.C02
