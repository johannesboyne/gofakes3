import GFS.Props.C04W
import GFS.Props.C03G
/-
  C04 with a delimiter: following NextMarker visits every Contents entry once and every common
  prefix once, for every bucket content, prefix, delimiter byte and page size.  What the walk of
  Props/C04W needs is that the keys grouped under one common prefix are contiguous in key order.
-/
namespace GFS.Props.C04D
open GFS.Model GFS.Bytes GFS.Spec.Listing GFS.Props.C03M GFS.Props.C03G GFS.Props.C04W GFS.Props.ListLoop

/-- lexicographic order: between two strings with a common prefix lies only that prefix's family -/
theorem prefix_between (x : Bytes) : ∀ (a b c : Bytes), hasPrefix a x = true → hasPrefix c x = true →
    lt a b = true → lt b c = true → hasPrefix b x = true := by
  simp only [hasPrefix_iff, lt_iff]
  induction x with
  | nil => intros; exact List.nil_prefix
  | cons h t ih =>
    rintro a b c ⟨a', rfl⟩ ⟨c', rfl⟩ hab hbc
    cases b with
    | nil => exact absurd hab (List.not_lt_nil _)
    | cons b0 b' =>
      -- the first byte of `b` can be neither above nor below the common one
      rw [List.cons_append, List.cons_lt_cons_iff] at hab hbc
      rcases hab with h1 | ⟨rfl, hab⟩
      · rcases hbc with h2 | ⟨rfl, _⟩
        · exact absurd h2 (UInt8.lt_asymm h1)
        · exact absurd h1 (UInt8.lt_irrefl _)
      · rcases hbc with h2 | ⟨_, hbc⟩
        · exact absurd h2 (UInt8.lt_irrefl _)
        · exact List.cons_prefix_cons.mpr ⟨rfl, ih _ _ _ (List.prefix_append ..) (List.prefix_append ..) hab hbc⟩

/-- keys grouped under one common prefix are contiguous in key order -/
theorem cprefix_between (d : UInt8) (pfx a b c x : Bytes)
    (ha : entryOf pfx (some d) a = some (.cprefix x)) (hc : entryOf pfx (some d) c = some (.cprefix x))
    (hab : lt a b = true) (hbc : lt b c = true) : entryOf pfx (some d) b = some (.cprefix x) := by
  obtain ⟨seg, hx, hseg, hpa⟩ := cprefix_iff.mp ha
  obtain ⟨_, _, _, hpc⟩ := cprefix_iff.mp hc
  exact cprefix_iff.mpr ⟨seg, hx, hseg, prefix_between x a b c hpa hpc hab hbc⟩

set_option linter.unusedVariables false in
/-- one page with any prefix/delimiter: either everything left fits (and the listing loop ends
    as the unpaginated one), or the page ends exactly at the object whose entry filled it -/
theorem page_delim (p : Prefix) (mk : Int) (hmk : 1 ≤ mk) (objs : List (Key × Obj)) (cnt : Int) (last : Bytes)
    (acc : ObjectList) (hc : cnt < mk) (hinv : ∀ q ∈ objs, q.2.data ≠ none)
    (hlast : last = [] ∨ last ∈ acc.prefixes)
    (hne : ∀ q ∈ objs, ∀ mp, p.match_ q.1 = some (true, mp) → mp ≠ []) :
    listLoop p mk objs cnt last acc =
        .ok { acc with contents := acc.contents ++ contentsOf p objs, prefixes := addAll acc.prefixes (cpsOf p objs) } ∨
    ∃ l1 k o l2 cp mp c t n, objs = l1 ++ (k, o) :: l2 ∧ liveMatch p (k, o) = some (cp, mp, c) ∧
      PageEnd p k l2 cp mp t n ∧
      listLoop p mk objs cnt last acc =
        .ok ⟨acc.contents ++ contentsOf p (l1 ++ [(k, o)]), addAll acc.prefixes (cpsOf p (l1 ++ [(k, o)])), t, n⟩ := by
  rcases page p mk objs cnt last acc (Or.inr hc) hinv (hlast_of hlast hne) with
    ⟨_, h⟩ | ⟨l1, k, o, l2, cp, mp, c, t, n, h1, h2, h3, _, _, _, h⟩
  · exact Or.inl h
  · exact Or.inr ⟨l1, k, o, l2, cp, mp, c, t, n, h1, h2, h3, h⟩

theorem sep_of_sorted (hasP : Bool) {d : UInt8} {pfx : Bytes} {L : List (Key × Obj)} (hs : SMap.Sorted L)
    (hdom : ∀ q ∈ L, q.1.head? ≠ some d ∧ q.1.getLast? ≠ some d) (hp : pfx.head? ≠ some d) :
    Sep ⟨hasP, pfx, true, d⟩ L := by
  intro l1 q l2 hL x ⟨qa, hqa, hma⟩ ⟨qb, hqb, hmb⟩
  subst hL
  obtain ⟨_, h2, h3⟩ := List.pairwise_append.mp hs
  have spec := fun r hr => match_cp_iff hasP x hp (hdom r hr)
  rw [spec q (by simp)]
  exact cprefix_between d pfx qa.1 q.1 qb.1 x ((spec qa (by simp [hqa])).mp hma) ((spec qb (by simp [hqb])).mp hmb)
    (h3 qa hqa q List.mem_cons_self) ((List.pairwise_cons.mp h2).1 qb hqb)

/-- **walk_delim_exact** (C04 with a delimiter; prefix and keys in the statement's domain: not
    starting, the keys not ending, with the delimiter; delete-marked keys included): the walk ends
    within objects + 1 requests on an untruncated page; its pages' Contents and CommonPrefixes
    concatenate to exactly those of the unpaginated listing, so every common prefix is reported on
    exactly one page, once. -/
theorem walk_delim_exact (m : Mem) (b : Bytes) (bk : Bucket) (hb : SMap.find m.buckets b = some bk)
    (hasP : Bool) (d : UInt8) (pfx : Bytes) (mk : Int) (hmk : 1 ≤ mk)
    (hsorted : SMap.Sorted bk.objects) (hinv : ∀ q ∈ bk.objects, q.2.data ≠ none ∧ q.1 ≠ [])
    (hdom : ∀ q ∈ bk.objects, q.1.head? ≠ some d ∧ q.1.getLast? ≠ some d) (hp : pfx.head? ≠ some d) :
    let p : Prefix := ⟨hasP, pfx, true, d⟩
    let pages := walk m b p mk (bk.objects.length + 1) []
    pages.flatMap (·.contents) = contentsOf p bk.objects ∧
    pages.flatMap (·.prefixes) = addAll [] (cpsOf p bk.objects) ∧
    pages.getLast?.map (·.truncated) = some false ∧
    pages.length ≤ bk.objects.length + 1 ∧
    m.listBucket b p [] 0 = .ok ⟨contentsOf p bk.objects, addAll [] (cpsOf p bk.objects), false, []⟩ := by
  intro p pages
  have hne := cp_ne_nil hasP hdom hp
  obtain ⟨g1, g2, g3, g4⟩ := walk_from m b bk hb p mk hmk hsorted hinv hne (sep_of_sorted hasP hsorted hdom hp)
    (bk.objects.length + 1) bk.objects [] rfl (Nat.lt_succ_self _)
  exact ⟨g1, g2, g3, g4, listBucket_unpaged hb (fun q hq => (hinv q hq).1) hne⟩

/-! Non-vacuity: keys a/x, a/y (delete-marked), a/z, ab, b/w with delimiter '/', page size 1:
    the pages are [a/], [ab], [b/]. -/
def exBk : Bucket := ⟨.enabled, [([97, 47, 120], ⟨some ⟨1, false, [1], [9], []⟩, []⟩), ([97, 47, 121], ⟨some ⟨5, true, [], [], []⟩, [⟨2, false, [2], [8], []⟩]⟩),
  ([97, 47, 122], ⟨some ⟨3, false, [3], [7], []⟩, []⟩), ([97, 98], ⟨some ⟨4, false, [4, 4], [6], []⟩, []⟩), ([98, 47, 119], ⟨some ⟨6, false, [6], [5], []⟩, []⟩)]⟩
def exM : Mem := ⟨[([120], exBk)], 6⟩
example : ((GFS.Props.C04W.walk exM [120] ⟨false, [], true, 47⟩ 1 6 []).map (fun r => (r.contents.map (·.key), r.prefixes))) =
    [([], [[97, 47]]), ([[97, 98]], []), ([], [[98, 47]])] := by decide +kernel

end GFS.Props.C04D
