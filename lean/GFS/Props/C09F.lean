import GFS.Props.C09
import GFS.Model.Front
import GFS.Lemmas.ResLemmas
/-
  C09 at handler level: every request the handlers of gofakes3.go can be given — any operation,
  any bucket, key, version id, prefix, delimiter, marker, page size, metadata and body — in every
  state reachable from the empty store by such requests, in every configuration, is answered
  without a panic, and leaves a state in which that is true again.

  "Not a panic" is the Boolean `isPanic = false`, which holds by `rfl` of a result or an answer
  written out with its constructor; so a handler is followed through its guards, and at each store
  operation two facts are used: it keeps the invariant (`C09.invB`) and it does not panic.
-/
/-- `Res.isPanic` for the answers of the handlers (`Out`, Model/Front); only the proofs below use it -/
def GFS.Model.Out.isPanic : GFS.Model.Out → Bool
  | .panic _ => true
  | _ => false

namespace GFS.Props.C09F
open GFS.Model GFS.Props.C09

/-- the requests of the modelled surface, with arbitrary parameters -/
inductive Req where
  | createBucket (b : Bytes)
  | headBucket (b : Bytes)
  | deleteBucket (b : Bytes) (force : Bool)
  | listBuckets
  | putObject (b : Bytes) (k : Key) (md : Meta) (body : Bytes)
  | getObject (b : Bytes) (k : Key) (vid : Option Nat) (isHead : Bool)
  | deleteObject (b : Bytes) (k : Key)
  | deleteObjectVersion (b : Bytes) (k : Key) (vid : Nat)
  | deleteMulti (b : Bytes) (objs : List (Key × Option Nat))
  | copyObject (sb : Bytes) (sk : Key) (db : Bytes) (dk : Key) (md : Meta)
  | listBucket (b : Bytes) (p : Prefix) (hasMarker : Bool) (marker : Bytes) (maxKeys : Int) (v2 : Bool)
  | getVersioning (b : Bytes)
  | putVersioning (b : Bytes) (status : Option Bool) (mfa : Bool)
  | listVersions (b : Bytes) (p : Prefix) (keyMarker : Bytes) (verMarker : Option Nat) (maxKeys : Int)

def handle (md5 : Bytes → Bytes) (cfg : Cfg) (m : Mem) : Req → Mem × Out
  | .createBucket b => Front.createBucket m b
  | .headBucket b => Front.headBucket cfg m b
  | .deleteBucket b force => Front.deleteBucket cfg m b force
  | .listBuckets => Front.listBuckets m
  | .putObject b k md body => Front.putObject md5 cfg m b k md body
  | .getObject b k vid isHead => Front.getObject cfg m b k vid isHead
  | .deleteObject b k => Front.deleteObject cfg m b k
  | .deleteObjectVersion b k vid => Front.deleteObjectVersion cfg m b k vid
  | .deleteMulti b objs => Front.deleteMulti cfg m b objs
  | .copyObject sb sk db dk md => Front.copyObject md5 cfg m sb sk db dk md
  | .listBucket b p hm marker mk v2 => Front.listBucket cfg m b p hm marker mk v2
  | .getVersioning b => Front.getVersioning cfg m b
  | .putVersioning b st mfa => Front.putVersioning cfg m b st mfa
  | .listVersions b p km vm mk => Front.listVersions cfg m b p km vm mk

def NoPanic (o : Out) : Prop := ∀ s, o ≠ .panic s

/-- what every handler establishes -/
def Good (r : Mem × Out) : Prop := C09.Inv r.1 ∧ NoPanic r.2

theorem NoPanic.of {o : Out} (h : o.isPanic = false) : NoPanic o := by
  intro s e
  rw [e] at h
  exact Bool.noConfusion h

theorem ofRes_noPanic {α : Type} {r : Res α} {f : α → Out} (hr : r.isPanic = false) (hf : ∀ a, (f a).isPanic = false) :
    NoPanic (Out.ofRes r f) := by
  cases r with
  | ok a => exact .of (hf a)
  | err c => exact .of rfl
  | panic s => exact Bool.noConfusion hr

/-- an answer written out with its constructor: `good_of h rfl` -/
theorem good_of {m : Mem} {o : Out} (h : C09.Inv m) (ho : o.isPanic = false) : Good (m, o) := ⟨h, .of ho⟩

/-- the answer built from what a store operation returns -/
theorem good_ofRes {α : Type} {x : Mem × Res α} {f : α → Out} (h : C09.Inv x.1) (hr : x.2.isPanic = false)
    (hf : ∀ a, (f a).isPanic = false) : Good (x.1, Out.ofRes x.2 f) :=
  ⟨h, ofRes_noPanic hr hf⟩

/-- `ensureBucketExists` lets the handler go on or refuses; it does not panic, and keeps the invariant -/
theorem ensure_good (cfg : Cfg) {m : Mem} (b : Bytes) (h : C09.Inv m) :
    ∃ m', C09.Inv m' ∧ (Front.ensureBucket cfg m b = (m', .ok ()) ∨ ∃ c, Front.ensureBucket cfg m b = (m', .err c)) := by
  unfold Front.ensureBucket
  -- the guards one by one: `split` on this goal (the `if` stands under `∃`) is several times dearer
  by_cases hb : m.bucketExists b = true
  · exact ⟨m, h, .inl (if_pos hb)⟩
  rw [if_neg hb]
  by_cases ha : cfg.autoBucket = true
  · rw [if_pos ha]
    by_cases hv : (!validateBucketName b) = true
    · exact ⟨m, h, .inr ⟨_, if_pos hv⟩⟩
    · rw [if_neg hv]
      have hc := invB.createBucket h b
      generalize m.createBucket b = x at hc
      obtain ⟨m', _ | _ | _⟩ := x
      · exact ⟨m', hc, .inl rfl⟩
      · exact ⟨m', hc, .inr ⟨_, rfl⟩⟩
      · exact ⟨m', hc, .inr ⟨_, rfl⟩⟩
  · exact ⟨m, h, .inr ⟨_, if_neg ha⟩⟩

/-- a handler run after `ensureBucketExists` is good if its body is good on every good store -/
theorem withBucket_good (cfg : Cfg) {m : Mem} (b : Bytes) {f : Mem → Mem × Out} (h : C09.Inv m)
    (hf : ∀ m', C09.Inv m' → Good (f m')) : Good (Front.withBucket cfg m b f) := by
  unfold Front.withBucket
  obtain ⟨m', h', e | ⟨c, e⟩⟩ := ensure_good cfg b h <;> rw [e]
  · exact hf _ h'
  · exact good_of h' rfl

/-- **handle_good**: in every configuration, for every request with arbitrary parameters, a
    store satisfying the invariant (no object without a current version) is taken to a store
    satisfying it, and the answer is not a panic -/
theorem handle_good (md5 : Bytes → Bytes) (cfg : Cfg) (m : Mem) (req : Req) (h : C09.Inv m) : Good (handle md5 cfg m req) := by
  cases req with
  | createBucket b =>
    simp only [handle, Front.createBucket]
    split
    · exact good_of h rfl
    · exact good_ofRes (invB.createBucket h b) (m.createBucket_noPanic b) fun _ => rfl
  | headBucket b => exact withBucket_good cfg b h fun m' h' => good_of h' rfl
  | deleteBucket b force =>
    refine withBucket_good cfg b h fun m' h' => ?_
    split
    · have hf := invB.forceDeleteBucket h' b
      obtain ⟨u, e⟩ | ⟨c, e⟩ := Res.pair_ok_or_err (m'.forceDeleteBucket_noPanic b) <;> rw [e]
      · exact good_ofRes (invB.deleteBucket hf b) (Mem.deleteBucket_noPanic _ b) fun _ => rfl
      · exact good_of hf rfl
    · exact good_ofRes (invB.deleteBucket h' b) (m'.deleteBucket_noPanic b) fun _ => rfl
  | listBuckets => exact good_of h rfl
  | putObject b k md body =>
    refine withBucket_good cfg b h fun m' h' => ?_
    split
    · exact good_of h' rfl
    · have hp := invB.put md5 h' b k md body trivial
      obtain ⟨v, e⟩ | ⟨c, e⟩ := Res.pair_ok_or_err (Mem.put_noPanic md5 m' b k md body) <;> rw [e] <;> exact good_of hp rfl
  | getObject b k vid isHead =>
    refine withBucket_good cfg b h fun m' h' => ?_
    cases vid with
    | none =>
      obtain ⟨v, e⟩ | ⟨c, e⟩ := Res.ok_or_err (get_noPanic m' b k h') <;> simp only [e] <;> exact good_of h' rfl
    | some id =>
      simp only
      -- `by_cases` here and below where a guard stands over a long body: `split` retries every nested `if`
      by_cases hv : (!cfg.versioned) = true
      · rw [if_pos hv]
        exact good_of h' rfl
      · rw [if_neg hv]
        obtain ⟨v, e⟩ | ⟨c, e⟩ := Res.ok_or_err (m'.getVersion_noPanic b k id) <;> simp only [e]
        · split <;> exact good_of h' rfl
        · exact good_of h' rfl
  | deleteObject b k =>
    exact withBucket_good cfg b h fun m' h' =>
      good_ofRes (invB.delete h' b k) (m'.delete_noPanic b k) fun _ => rfl
  | deleteObjectVersion b k vid =>
    simp only [handle, Front.deleteObjectVersion]
    split
    · exact good_of h rfl
    · exact withBucket_good cfg b h fun m' h' =>
        good_ofRes (invB.deleteVersion h' b k vid) (m'.deleteVersion_noPanic b k vid) fun _ => rfl
  | deleteMulti b objs =>
    refine withBucket_good cfg b h fun m' h' => ?_
    split
    · exact good_ofRes (invB.deleteMultiVersions h' b objs) (m'.deleteMultiVersions_noPanic b objs) fun _ => rfl
    · exact good_ofRes (invB.deleteMulti h' b _) (m'.deleteMulti_noPanic b _) fun _ => rfl
  | copyObject sb sk db dk md =>
    refine withBucket_good cfg db h fun m' h' => ?_
    by_cases hk : dk.length > Front.KeySizeLimit
    · rw [if_pos hk]
      exact good_of h' rfl
    · rw [if_neg hk, Mem.head_eq_get]
      obtain ⟨src, e⟩ | ⟨c, e⟩ := Res.ok_or_err (get_noPanic m' sb sk h') <;> simp only [e]
      · generalize mergeMeta md _ = md'
        have hp := invB.put md5 h' db dk md' src.body trivial
        obtain ⟨v, e⟩ | ⟨c, e⟩ := Res.pair_ok_or_err (Mem.put_noPanic md5 m' db dk md' src.body) <;> rw [e] <;> exact good_of hp rfl
      · exact good_of h' rfl
  | listBucket b p hm marker mk v2 =>
    refine withBucket_good cfg b h fun m' h' => ⟨h', ofRes_noPanic ?_ fun _ => rfl⟩
    split
    · exact listBucket_noPanic m' b p marker mk h'
    · split
      · rfl
      · exact listBucket_noPanic m' b p [] 0 h'
  | getVersioning b =>
    refine withBucket_good cfg b h fun m' h' => ?_
    split
    · exact ⟨h', ofRes_noPanic (m'.versioning_noPanic b) fun _ => rfl⟩
    · exact good_of h' rfl
  | putVersioning b st mfa =>
    refine withBucket_good cfg b h fun m' h' => ?_
    by_cases hv : (!cfg.versioned) = true
    · rw [if_pos hv]
      split <;> exact good_of h' rfl
    · rw [if_neg hv]
      split
      · exact good_of h' rfl
      · exact good_ofRes (invB.setVersioning h' b _) (m'.setVersioning_noPanic b _) fun _ => rfl
  | listVersions b p km vm mk =>
    simp only [handle, Front.listVersions]
    split
    · exact good_of h rfl
    · exact withBucket_good cfg b h fun m' h' =>
        ⟨h', ofRes_noPanic (m'.listVersions_noPanic b p km vm mk) fun _ => rfl⟩

def serve (md5 : Bytes → Bytes) (cfg : Cfg) (m : Mem) : List Req → Mem × List Out
  | [] => (m, [])
  | r :: rs => let a := handle md5 cfg m r; let rest := serve md5 cfg a.1 rs; (rest.1, a.2 :: rest.2)

/-- **serve_never_panics**: in every configuration, every finite sequence of requests with
    arbitrary parameters, started from the empty store (or any store satisfying the invariant), is
    answered without a single panic, and the invariant holds at the end — so whatever was sent,
    the server goes on answering. -/
theorem serve_never_panics (md5 : Bytes → Bytes) (cfg : Cfg) (reqs : List Req) :
    ∀ m, C09.Inv m → C09.Inv (serve md5 cfg m reqs).1 ∧ ∀ o ∈ (serve md5 cfg m reqs).2, NoPanic o :=
  Fold.run_inv (run := serve md5 cfg) (fun _ => rfl) (fun _ _ _ => rfl) (handle_good md5 cfg) reqs

theorem serve_from_empty (md5 : Bytes → Bytes) (cfg : Cfg) (reqs : List Req) :
    ∀ o ∈ (serve md5 cfg Mem.empty reqs).2, NoPanic o :=
  (serve_never_panics md5 cfg reqs Mem.empty invB.empty).2

/-! Non-vacuity: a hostile little sequence (version delete of the only version, reads, a listing
    from an absurd marker) on a versioned bucket. -/
example : ((serve id {} Mem.empty [.createBucket [98, 107, 116], .putVersioning [98, 107, 116] (some true) false,
    .putObject [98, 107, 116] [107] [] [1], .deleteObjectVersion [98, 107, 116] [107] 1, .getObject [98, 107, 116] [107] none true,
    .listBucket [98, 107, 116] ⟨false, [], true, 47⟩ true [255] (-5) true, .listVersions [98, 107, 116] ⟨false, [], false, 0⟩ [107] (some 9) 1]).2.map
      (fun o => match o with | .err c => some c | _ => none)) =
    [none, none, none, none, some .NoSuchKey, none, none] := by decide +kernel

end GFS.Props.C09F
