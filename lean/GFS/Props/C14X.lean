import GFS.Props.C14L
/-
  C14, first clause: the index ListMultipartUploads walks holds exactly the uploads that are pending.

  `IdxB`: the per-key index the listing walks (`bucketUploads.objectIndex`) holds an id under a
  key exactly when the upload table holds that id with that key (`uidx`).  With `C14L.live_exact`
  (pending = initiated and neither completed nor aborted): `listing_is_live`; what the listing shows
  of the index is `C14U.listUploads_exact`.
-/
namespace GFS.Props.C14X
open GFS.Model GFS.Props.C06F GFS.Props.C06R GFS.Props.C14L
open GFS.Props.C14I (Op step)

/-- the ids the index holds under key k -/
def idsOf (bu : BUps) (k : Key) : List Nat := (SMap.find bu.index k).getD []

/-- index and upload table agree, and every upload of this bucket's table names this bucket -/
structure IdxB (b : Bytes) (bu : BUps) : Prop where
  agree : ∀ k id, id ∈ idsOf bu k ↔ ∃ m, bu.find id = some m ∧ m.key = k
  mine  : ∀ id m, bu.find id = some m → m.bucket = b ∧ m.id = id

theorem idsOf_add (bu : BUps) (m : MPU) (k : Key) :
    idsOf (bu.add m) k = if m.key = k then idsOf bu k ++ [m.id] else idsOf bu k :=
  BUps.index_add bu m k

theorem idsOf_remove (bu : BUps) (m : MPU) (k : Key) :
    idsOf (bu.remove m) k = if m.key = k then (idsOf bu k).filter (fun i => !(i == m.id)) else idsOf bu k :=
  BUps.index_remove bu m k

theorem idx_add {b : Bytes} {bu : BUps} {m : MPU} (h : IdxB b bu) (hfresh : bu.find m.id = none) (hb : m.bucket = b) :
    IdxB b (bu.add m) := by
  constructor
  · intro k id
    rw [idsOf_add, BUps.find_add]
    have := h.agree k id
    by_cases hid : id = m.id
    · subst hid; by_cases hk : m.key = k <;> simp [*]
    · by_cases hk : m.key = k <;> simp [*]
  · intro id m' hm'
    rw [BUps.find_add] at hm'
    split at hm'
    · cases hm'; exact ⟨hb, by simp_all⟩
    · exact h.mine id m' hm'

theorem idx_set {b : Bytes} {bu : BUps} {id : Nat} {m : MPU} (h : IdxB b bu) (hf : bu.find id = some m)
    (parts : List (Option Part)) : IdxB b (bu.set { m with parts := parts }) := by
  obtain ⟨hmb, rfl⟩ := h.mine id m hf
  constructor
  · intro k id
    show id ∈ idsOf bu k ↔ _
    rw [BUps.find_set, h.agree k id]
    by_cases hi : id = m.id
    · subst hi; rw [if_pos rfl, hf]; simp
    · rw [if_neg hi]
  · intro id x hx
    rw [BUps.find_set] at hx
    split at hx
    · subst id; rw [hf] at hx; cases hx; exact ⟨hmb, rfl⟩
    · exact h.mine id x hx

theorem idx_remove {b : Bytes} {bu : BUps} {id : Nat} {m : MPU} (h : IdxB b bu) (hf : bu.find id = some m) :
    IdxB b (bu.remove m) := by
  obtain ⟨-, rfl⟩ := h.mine id m hf
  constructor
  · intro k id
    rw [idsOf_remove, BUps.find_remove]
    have := h.agree k id
    by_cases hid : id = m.id
    · subst hid; by_cases hk : m.key = k <;> simp [*]
    · by_cases hk : m.key = k <;> simp [*]
  · intro id x hx
    rw [BUps.find_remove] at hx
    split at hx
    · cases hx
    · exact h.mine id x hx

def UIdx (u : Upl) : Prop := ∀ b bu, SMap.find u.buckets b = some bu → IdxB b bu

theorem idxB_empty (b : Bytes) : IdxB b ⟨[], []⟩ :=
  ⟨fun k id => by simp [idsOf, BUps.find], fun id m h => by simp [BUps.find] at h⟩

/-- `add` keeps the agreement because the new id is in no list yet: that is `UB` -/
theorem uidx : UplInv (fun b N bu => UB N bu ∧ IdxB b bu) (fun _ => True) (fun u => UBound u ∧ UIdx u) where
  find h hb := ⟨h.1 _ _ hb, h.2 _ _ hb⟩
  insert h hN hb := ⟨ubound.insert h.1 hN hb.1, SMap.forall_find_insert (P := IdxB) h.2 hb.2⟩
  fresh b N := ⟨ubound.fresh b N, idxB_empty b⟩
  add k md _ h := ⟨ubound.add k md trivial h.1, idx_add h.2 h.1.fresh rfl⟩
  set b parts hf h := ⟨ubound.set b parts hf h.1, idx_set h.2 hf parts⟩
  remove b hf h := ⟨ubound.remove b hf h.1, idx_remove h.2 hf⟩

/-- **uidx_step**: every request keeps index and upload table in agreement -/
theorem uidx_step (md5 : Bytes → Bytes) (s : Srv) (op : Op) (hi : SInv s) (h : UIdx s.upl) : UIdx (step md5 s op).upl :=
  (uidx.step md5 ⟨hi.bound, h⟩).2

/-- an id is filed under a key of bucket b's index exactly when that upload is pending there -/
theorem index_is_pending (u : Upl) (h : UIdx u) (b : Bytes) (bu : BUps) (hb : SMap.find u.buckets b = some bu) (k : Key) (id : Nat) :
    id ∈ idsOf bu k ↔ (pending u b k id).isSome = true := by
  rw [(h b bu hb).agree k id, pending_eq, hb, Option.getD_some, Option.isSome_filter, Option.any_eq_true]
  exact exists_congr fun m => and_congr_right fun hm => by simp [((h b bu hb).mine id m hm).1]

/-- **listing_is_live**: after every finite sequence of multipart requests from the empty uploader,
    for every bucket with bookkeeping: the index ListMultipartUploads walks holds `id` under `k`
    exactly when (bucket, key, id) is live — initiated and neither aborted nor completed with an
    acknowledged complete.  (What the listing shows of the index: `C14U.listUploads_exact`, and
    `C14I.reachable_uploads_walk_exact` for the paged walks.) -/
theorem listing_is_live (md5 : Bytes → Bytes) (ops : List Op) (mem : Mem) (b : Bytes) (bu : BUps)
    (hb : SMap.find (liveRun md5 ⟨mem, Upl.empty⟩ [] ops).1.upl.buckets b = some bu) (k : Key) (id : Nat) :
    id ∈ idsOf bu k ↔ (b, k, id) ∈ (liveRun md5 ⟨mem, Upl.empty⟩ [] ops).2 := by
  obtain ⟨_, hu⟩ := uidx.run md5 ops (s := ⟨mem, Upl.empty⟩) ⟨nofun, nofun⟩
  rw [← liveRun_fst md5 ops ⟨mem, Upl.empty⟩ []] at hu
  rw [index_is_pending _ hu b bu hb k id]
  exact (live_exact md5 ops ⟨mem, Upl.empty⟩ [] (sinv_empty mem) (live_empty mem)).2 b k id

/-! Non-vacuity: the history of C14L's example: only upload 3 (key "l") is in the index. -/
example : ((liveRun id ⟨(Mem.createBucket Mem.empty [98]).1, Upl.empty⟩ [] C14L.exOps).1.upl.buckets.find [98]).map (·.index) =
    some [([108], [3])] := by decide +kernel

end GFS.Props.C14X
