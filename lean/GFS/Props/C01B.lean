import GFS.Props.C01
import GFS.Props.BoltR
import GFS.Props.FsR
/-
  C01 on the other backends' models: after an acknowledged PutObject, GetObject / HeadObject
  return exactly the uploaded bytes, the digest of those bytes, and every header that was sent
  — on s3bolt (Model/Bolt) and on the multi-bucket file-system backend (Model/FsBackend).
-/
namespace GFS.Props.C01B
open GFS.Model GFS.Props.C01

section bolt
open GFS.Model.Bolt

theorem bolt_put_ok (md5 : Bytes → Bytes) (db db' : DB) (b k : Bytes) (sent : Meta) (body : Bytes)
    (hput : putObject md5 db b k sent body = (db', .ok ())) :
    ∃ kv0, b ≠ metaName ∧ s3Bucket db b = some kv0 ∧
      db' = SMap.insert db b (SMap.insert kv0 k (.obj ⟨body, md5 body, mergedMeta db b k sent⟩)) := by
  rw [BoltR.putObject_eq] at hput
  rcases BoltR.s3Bucket_cases db b with ⟨h1, _⟩ | ⟨kv, hb, _, h1, _⟩
  · rw [h1] at hput; cases hput
  · rw [h1] at hput
    simp only at hput
    split at hput
    · cases hput
    · exact ⟨kv, hb, h1, (Prod.mk.inj hput).1.symm⟩

theorem bolt_mergedMeta_keeps_new (db : DB) (b k : Bytes) (sent : Meta) (h v : Bytes) (hv : SMap.find sent h = some v) :
    SMap.find (mergedMeta db b k sent) h = some v := by
  unfold mergedMeta
  split
  · exact mergeMeta_keeps_new sent _ h v hv
  · exact hv

/-- **bolt_put_get**: on s3bolt, in any database, after `PutObject` acknowledges an upload of
    `body` with headers `sent` to (bucket, key), `GetObject` of that key returns exactly `body`,
    the digest `md5 body`, and metadata in which every sent header has the sent value. -/
theorem bolt_put_get (md5 : Bytes → Bytes) (db db' : DB) (b k : Bytes) (sent : Meta) (body : Bytes)
    (hput : putObject md5 db b k sent body = (db', .ok ())) :
    ∃ md, getObject db' b k = .ok ⟨body, md5 body, md⟩ ∧ ∀ h v, SMap.find sent h = some v → SMap.find md h = some v := by
  obtain ⟨kv0, hb, _, rfl⟩ := bolt_put_ok md5 db db' b k sent body hput
  refine ⟨mergedMeta db b k sent, ?_, bolt_mergedMeta_keeps_new db b k sent⟩
  unfold getObject
  rw [BoltR.s3Bucket_insert hb, if_pos rfl]
  simp only [SMap.find_insert_self]

theorem getObject_insert_frame {db : DB} {b k b' k' : Bytes} {kv0 kv : SMap BVal} (hb : b ≠ metaName)
    (hs : s3Bucket db b = some kv0) (hne : ¬ (b' = b ∧ k' = k)) (h : k ≠ k' → SMap.find kv k' = SMap.find kv0 k') :
    getObject (SMap.insert db b kv) b' k' = getObject db b' k' := by
  unfold getObject
  rw [BoltR.s3Bucket_insert hb]
  by_cases e : b = b'
  · rw [if_pos e, ← e, hs]
    simp only [h fun e' => hne ⟨e.symm, e'.symm⟩]
  · rw [if_neg e]

/-- an upload to one key leaves every other key of every bucket as it was -/
theorem bolt_put_frame (md5 : Bytes → Bytes) (db db' : DB) (b k b' k' : Bytes) (sent : Meta) (body : Bytes)
    (hput : putObject md5 db b k sent body = (db', .ok ())) (hne : ¬ (b' = b ∧ k' = k)) :
    getObject db' b' k' = getObject db b' k' := by
  obtain ⟨kv0, hb, hs, rfl⟩ := bolt_put_ok md5 db db' b k sent body hput
  exact getObject_insert_frame hb hs hne SMap.find_insert_ne
end bolt

section fs
open GFS.Model.Fs GFS.Model.FsB GFS.Props.FsInv GFS.Props.FsR

theorem fs_mergedMeta_keeps_new (md5 : Bytes → Bytes) (s : FsS) (b k : Bytes) (sent : Meta) (h v : Bytes)
    (hv : SMap.find sent h = some v) : SMap.find (FsB.mergedMeta md5 s b k sent) h = some v := by
  unfold FsB.mergedMeta
  split
  · exact mergeMeta_keeps_new sent _ h v hv
  · exact hv

/-- **fs_put_get**: on the file-system backend, after `PutObject` acknowledges an upload (the
    key was a clean relative path without conflicts), `GetObject` returns exactly the uploaded
    bytes, the digest of those bytes (whether stored or recomputed by `loadMeta`), and every sent
    header with the sent value. -/
theorem fs_put_get (md5 : Bytes → Bytes) (s s' : FsS) (b k : Bytes) (sent : Meta) (body : Bytes)
    (hput : FsB.putObject md5 s b k sent body = (s', .ok ())) :
    ∃ md, FsB.getObject md5 s' b k = .ok ⟨body, md5 body, md⟩ ∧ ∀ h v, SMap.find sent h = some v → SMap.find md h = some v := by
  obtain ⟨p, bk, t', hk, hb, hp, rfl⟩ := putObject_ok md5 s s' b k sent body hput
  refine ⟨FsB.mergedMeta md5 s b k sent, ?_, fs_mergedMeta_keeps_new md5 s b k sent⟩
  simp [FsB.getObject, SMap.find_insert_self, getKey, hk, put_get bk.tree p body t' hp]
end fs

/-! Non-vacuity: an acknowledged upload on each model. -/
example : (Bolt.putObject id (Bolt.createBucket Bolt.DB.empty [98, 107, 49]).1 [98, 107, 49] [107] [([67], [116])] [1, 2]).2 = .ok () := by decide +kernel
example : (FsB.putObject id (FsB.createBucket FsB.FsS.empty [98, 107, 49]).1 [98, 107, 49] [100, 47, 107] [([67], [116])] [1, 2]).2 = .ok () := by decide +kernel

end GFS.Props.C01B
