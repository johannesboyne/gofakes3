import GFS.Props.C14U
import GFS.Lemmas.Order
import GFS.Lemmas.Walk
/-
  C14, paging of ListMultipartUploads: following the (NextKeyMarker, NextUploadIdMarker) a truncated
  page returns visits every pending upload of the unpaginated listing exactly once, for every page
  size.  A page without marker returns a front part of the flat listing `F`, and its markers name
  an index `left` holding the rest (`page`); a request carrying them runs the marker-free loop on
  `left` (`resume`); the walk is then `Walk.exact`.
-/
namespace GFS.Props.C14P
open GFS.Model GFS.Model.Upl GFS.Props.C14U

abbrev Idx := List (Key × List Nat)

def F (p : Prefix) (idx : Idx) : List UploadItem := idx.flatMap (uploadsOfKey p)

theorem F_cons (p : Prefix) (q : Key × List Nat) (rest : Idx) : F p (q :: rest) = uploadsOfKey p q ++ F p rest :=
  List.flatMap_cons

/-- what the `done:` loop (`moreAfter`) finds in `l`: keys that list nothing, then the end, or the key `m` names -/
def SkipsTo (p : Prefix) (l : Idx) (m : Option (Key × Option Nat)) : Prop :=
  ∃ pre, F p pre = [] ∧ ((m = none ∧ l = pre) ∨
    ∃ nk ids t, m = some (nk, ids.head?) ∧ l = pre ++ (nk, ids) :: t ∧ (p.match_ nk).isSome)

theorem SkipsTo.later {p : Prefix} {q : Key × List Nat} {l : Idx} {m : Option (Key × Option Nat)}
    (h0 : uploadsOfKey p q = []) (h : SkipsTo p l m) : SkipsTo p (q :: l) m := by
  obtain ⟨pre, e0, e⟩ := h
  refine ⟨q :: pre, by rw [F_cons, h0, e0]; rfl, ?_⟩
  rcases e with ⟨e1, e2⟩ | ⟨nk, ids', t, e1, e2, e3⟩
  · exact Or.inl ⟨e1, by rw [e2]⟩
  · exact Or.inr ⟨nk, ids', t, e1, by rw [e2]; rfl, e3⟩

theorem moreAfter_spec (p : Prefix) (seen : List Bytes) (l : Idx) : SkipsTo p l (moreAfter p seen l) := by
  induction l with
  | nil => exact ⟨[], rfl, Or.inl ⟨rfl, rfl⟩⟩
  | cons q rest ih =>
    obtain ⟨k, ids⟩ := q
    have here : (p.match_ k).isSome → SkipsTo p ((k, ids) :: rest) (some (k, ids.head?)) :=
      fun hm => ⟨[], rfl, Or.inr ⟨k, ids, rest, rfl, rfl, hm⟩⟩
    unfold moreAfter
    cases hm : p.match_ k with
    | none => exact ih.later (by simp [uploadsOfKey, hm])
    | some r =>
      obtain ⟨cp, mp⟩ := r
      cases cp with
      | false => exact here (by simp [hm])
      | true =>
        simp only
        split
        · exact ih.later (by simp [uploadsOfKey, hm])
        · exact here (by simp [hm])

/-- the index invariant the uploader keeps (`C14I`) -/
def Good (O : Idx) : Prop :=
  SMap.Sorted O ∧ (∀ q ∈ O, q.2 ≠ [] ∧ q.2.Nodup) ∧ ∀ q ∈ O, q.1 ≠ []

/-- `S` is what remains of `O` from some key on; its first key may have lost leading ids -/
def Suf (O S : Idx) : Prop :=
  match S with
  | [] => True
  | (k, ids') :: rest => ∃ pre ids0 dr, O = pre ++ (k, ids0) :: rest ∧ ids0 = dr ++ ids'

theorem suf_of_plain (O pre S : Idx) (h : O = pre ++ S) : Suf O S := by
  cases S with
  | nil => trivial
  | cons q rest => obtain ⟨k, ids⟩ := q; exact ⟨pre, ids, [], h, by simp⟩

theorem suf_later (O : Idx) (q : Key × List Nat) (pre S : Idx) (h : Suf O (q :: (pre ++ S))) : Suf O S := by
  obtain ⟨pre0, ids0, dr, h1, _⟩ := h
  exact suf_of_plain O (pre0 ++ (q.1, ids0) :: pre) S (by simp [h1])

/-- the marker pair `(km, im)` names the remaining work `S` -/
def Names (p : Prefix) (O S : Idx) (km : Bytes) (im : Option Nat) : Prop :=
  (km = [] ∧ S = O) ∨ ∃ k' j t rest', S = (k', j :: t) :: rest' ∧ km = k' ∧ im = some j ∧ (p.match_ k').isSome

theorem page (p : Prefix) (L : Int) (O : Idx) (hO : ∀ q ∈ O, q.2 ≠ []) (S : Idx) :
    ∀ (cnt : Int) (acc : UploadList), cnt < L → acc.truncated = false → Suf O S →
    ∀ r, listUploadsLoop p L S none cnt acc = r →
    ∃ taken left, r.uploads = acc.uploads ++ taken ∧ cnt + taken.length ≤ L ∧ F p S = taken ++ F p left ∧ Suf O left ∧
      ((r.truncated = false ∧ left = []) ∨ (r.truncated = true ∧ Names p O left r.nextKey r.nextId ∧ taken ≠ [])) := by
  induction S with
  | nil =>
    intro cnt acc hc ht _ r hr
    subst hr
    exact ⟨[], [], (List.append_nil _).symm, by simpa using Int.le_of_lt hc, rfl, trivial, Or.inl ⟨ht, rfl⟩⟩
  | cons q rest ih =>
    intro cnt acc hc ht hS
    obtain ⟨k, ids⟩ := q
    have hSr : Suf O rest := suf_later O (k, ids) [] rest hS
    rw [F_cons]
    unfold listUploadsLoop uploadsOfKey
    cases hm : p.match_ k with
    | none => exact ih cnt acc hc ht hSr
    | some r0 =>
      obtain ⟨cp, mp⟩ := r0
      -- the result has a name so that the loop is rewritten in `hr` alone, not wherever the goal speaks of it
      intro r hr
      cases cp with
      | true =>
        obtain ⟨taken, left, h1, h2⟩ := ih cnt (if acc.prefixes.contains mp then acc else { acc with prefixes := acc.prefixes ++ [mp] })
          hc (by cases acc.prefixes.contains mp <;> exact ht) hSr r hr
        exact ⟨taken, left, by rw [h1]; cases acc.prefixes.contains mp <;> rfl, h2⟩
      | false =>
        simp only [Bool.false_eq_true, if_false] at hr
        obtain ⟨tk, rs, rfl, ⟨a1, rfl, a3⟩ | ⟨a1, a2, a3⟩⟩ := take_split L k ids cnt acc hc
        · -- the key is listed whole and the loop goes on
          rw [a3] at hr
          obtain ⟨taken, left, e1, e2, e3, e4, e5⟩ := ih (cnt + tk.length)
            { acc with uploads := acc.uploads ++ tk.map (fun i => ⟨k, i⟩) } a1 ht hSr r hr
          exact ⟨tk.map (fun i => ⟨k, i⟩) ++ taken, left, by simp [e1], by rw [List.length_append, List.length_map]; omega,
            by simp [e3], e4, e5.imp id fun ⟨g1, g2, g3⟩ => ⟨g1, g2, by simp [g3]⟩⟩
        · have htk : tk.map (fun i => (⟨k, i⟩ : UploadItem)) ≠ [] := by simpa using a2
          rw [a3] at hr
          cases rs with
          | cons j t =>
            -- the page ends inside the key
            subst hr
            obtain ⟨pre, ids0, dr, e1, e3⟩ := hS
            exact ⟨_, (k, j :: t) :: rest, rfl, by simp [a1], by rw [F_cons]; simp [uploadsOfKey, hm],
              ⟨pre, ids0, dr ++ tk, e1, by rw [e3, List.append_assoc]⟩,
              Or.inr ⟨rfl, .inr ⟨k, j, t, rest, rfl, rfl, rfl, by simp [hm]⟩, htk⟩⟩
          | nil =>
            -- the page ends with the key's last id: the `done:` loop looks for a later key
            simp only [if_true] at hr
            rw [if_neg (by simp [ht])] at hr
            rw [List.append_nil]
            obtain ⟨pre, e0, ⟨e1, e2⟩ | ⟨nk, ids', t, e1, e2, e3⟩⟩ := moreAfter_spec p acc.prefixes rest
            · rw [e1] at hr
              subst hr
              exact ⟨_, [], rfl, by simp [a1], by rw [e2, e0]; rfl, trivial, Or.inl ⟨ht, rfl⟩⟩
            · have hne' : ids' ≠ [] := by
                obtain ⟨pre0, ids0, _, h0, _⟩ := hS
                exact hO (nk, ids') (by simp [h0, e2])
              obtain ⟨j, tl, rfl⟩ := List.exists_cons_of_ne_nil hne'
              rw [e1] at hr
              subst hr
              exact ⟨_, (nk, j :: tl) :: t, rfl, by simp [a1],
                by rw [e2]; unfold F at e0 ⊢; rw [List.flatMap_append, e0]; rfl,
                suf_later O (k, _) pre _ (e2 ▸ hS), Or.inr ⟨rfl, .inr ⟨nk, j, tl, t, rfl, rfl, rfl, e3⟩, htk⟩⟩

theorem filter_from_key (pre rest : Idx) (k : Key) (ids0 : List Nat)
    (hs : SMap.Sorted (pre ++ (k, ids0) :: rest)) :
    (pre ++ (k, ids0) :: rest).filter (fun q => !Bytes.lt q.1 k) = (k, ids0) :: rest :=
  SMap.filter_from_key hs

/-- **resume**: a request carrying the markers a page returned continues exactly where the page stopped -/
theorem resume (p : Prefix) (L : Int) (O : Idx) (hG : Good O)
    (k' : Key) (ids' : List Nat) (rest' : Idx) (hS : Suf O ((k', ids') :: rest'))
    (j : Nat) (t : List Nat) (hj : ids' = j :: t) (hm : (p.match_ k').isSome) (acc : UploadList) :
    listUploadsLoop p L (O.filter (fun q => !Bytes.lt q.1 k')) (some j) 0 acc =
      listUploadsLoop p L ((k', ids') :: rest') none 0 acc := by
  obtain ⟨pre, ids0, dr, e1, e3⟩ := hS
  obtain ⟨hsorted, hok, _⟩ := hG
  subst e1
  rw [SMap.filter_from_key hsorted]
  have hnd : ids0.Nodup := (hok (k', ids0) (by simp)).2
  have hjn : j ∉ dr := by
    rw [e3, hj] at hnd
    exact fun hmem => (List.nodup_append.mp hnd).2.2 j hmem j (by simp) rfl
  have hc : ids0.contains j = true := by simp [e3, hj]
  have hd : ids0.dropWhile (fun i => !(i == j)) = ids' := by
    have hdr : ∀ a ∈ dr, (!(a == j)) = true := fun a ha => by
      have : a ≠ j := fun e => hjn (e ▸ ha)
      simp [this]
    rw [e3, hj, List.dropWhile_append_of_pos hdr, List.dropWhile_cons_of_neg (by simp)]
  obtain ⟨mm, hmm⟩ := Option.isSome_iff_exists.mp hm
  unfold listUploadsLoop
  simp only [hmm, hc, if_true, hd, Bool.false_eq_true, if_false]

/-- the pages of a walk along the returned markers -/
def walk (u : Upl) (b : Bytes) (p : Prefix) (L : Int) : Nat → Bytes → Option Nat → List UploadList
  | 0, _, _ => []
  | n + 1, km, im =>
    match u.listUploads b p km im L with
    | .ok r => if r.truncated then r :: walk u b p L n r.nextKey r.nextId else [r]
    | _ => []

theorem walk_from (u : Upl) (b : Bytes) (bu : BUps) (hb : SMap.find u.buckets b = some bu) (p : Prefix)
    (L : Int) (hL : 1 ≤ L) (hG : Good bu.index) :
    ∀ (fuel : Nat) (S : Idx) (km : Bytes) (im : Option Nat),
      Suf bu.index S → (∀ q ∈ S, q.2 ≠ []) →
      ((km = [] ∧ S = bu.index) ∨ ∃ k' j t rest', S = (k', j :: t) :: rest' ∧ km = k' ∧ im = some j ∧ (p.match_ k').isSome) →
      (F p S).length < fuel →
      (walk u b p L fuel km im).flatMap (·.uploads) = F p S ∧
      (walk u b p L fuel km im).getLast?.map (·.truncated) = some false ∧
      ∀ r ∈ walk u b p L fuel km im, (r.uploads.length : Int) ≤ L := by
  intro fuel S km im hS _ hN hlen
  have := Walk.exact (fun n (s : Bytes × Option Nat) => walk u b p L n s.1 s.2) (·.truncated) (fun r => (r.nextKey, r.nextId))
    (·.uploads) (fun S s => Suf bu.index S ∧ Names p bu.index S s.1 s.2)
    (F p) (fun S => (F p S).length) (fun r => (r.uploads.length : Int) ≤ L) ?_ fuel S (km, im) ⟨hS, hN⟩ hlen
  · exact ⟨this.1, this.2.1, this.2.2.1⟩
  · intro S s ⟨hS, hN⟩
    -- the request is the marker-free loop over `S`
    have hreq : u.listUploads b p s.1 s.2 L = .ok (listUploadsLoop p L S none 0 ⟨[], [], false, [], none⟩) := by
      unfold Upl.listUploads
      simp only [hb]
      rcases hN with ⟨h1, h3⟩ | ⟨k', j, t, rest', h1, h2, h4, hm⟩
      · subst h3; simp only [h1, List.isEmpty_nil, if_true]
      · subst h1
        have hk : k' ≠ [] := by
          obtain ⟨pre, ids0, dr, e1, _⟩ := hS
          exact hG.2.2 (k', ids0) (by rw [e1]; simp)
        have hke : k'.isEmpty = false := List.isEmpty_eq_false_iff.mpr hk
        simp only [h2, h4, hke, Bool.false_eq_true, if_false]
        rw [resume p L bu.index hG k' (j :: t) rest' hS j t rfl hm]
    obtain ⟨taken, left, h1, h2, h3, h4, h5⟩ :=
      page p L bu.index (fun q hq => (hG.2.1 q hq).1) S 0 ⟨[], [], false, [], none⟩ (by omega) rfl hS _ rfl
    simp only [List.nil_append] at h1
    refine ⟨listUploadsLoop p L S none 0 ⟨[], [], false, [], none⟩, fun n => by simp only [walk, hreq], by rw [h1]; omega, ?_⟩
    rw [h1]
    rcases h5 with ⟨htr, rfl⟩ | ⟨htr, hnext, hne⟩
    · exact Or.inl ⟨htr, by simpa [F] using h3⟩
    · have : taken.length ≠ 0 := by simpa using hne
      exact Or.inr ⟨htr, left, ⟨h4, hnext⟩, by simp only [h3, List.length_append]; omega, h3⟩

/-- **uploads_walk_exact**: for every page size `L ≥ 1`, the pages obtained by starting without marker
    and passing back the (NextKeyMarker, NextUploadIdMarker) of each truncated page carry,
    concatenated, exactly the uploads of the unpaginated listing (`listUploads_exact`), end with a
    page that is not truncated, and never exceed `L` uploads. -/
theorem uploads_walk_exact (u : Upl) (b : Bytes) (bu : BUps) (hb : SMap.find u.buckets b = some bu) (p : Prefix)
    (L : Int) (hL : 1 ≤ L) (hG : Good bu.index) :
    let pages := walk u b p L ((bu.index.flatMap (uploadsOfKey p)).length + 1) [] none
    pages.flatMap (·.uploads) = bu.index.flatMap (uploadsOfKey p) ∧
    pages.getLast?.map (·.truncated) = some false ∧
    ∀ r ∈ pages, (r.uploads.length : Int) ≤ L :=
  walk_from u b bu hb p L hL hG _ bu.index [] none (suf_of_plain _ [] _ rfl) (fun q hq => (hG.2.1 q hq).1)
    (Or.inl ⟨rfl, rfl⟩) (by unfold F; omega)

/-! Non-vacuity: keys `a` (uploads 1, 3), `d/x` (2, grouped under `d/` by the delimiter), `e` (4); pages of one. -/
def exUpl : Upl := ⟨[([98], ⟨[], [([97], [1, 3]), ([100, 47, 120], [2]), ([101], [4])]⟩)], 4⟩

example : Good [(([97] : Bytes), [1, 3]), ([100, 47, 120], [2]), ([101], [4])] := by
  refine ⟨?_, ?_, ?_⟩
  · unfold SMap.Sorted; decide
  · intro q hq
    simp only [List.mem_cons, List.mem_nil_iff, or_false] at hq
    rcases hq with rfl | rfl | rfl <;> simp
  · intro q hq
    simp only [List.mem_cons, List.mem_nil_iff, or_false] at hq
    rcases hq with rfl | rfl | rfl <;> simp

example : (walk exUpl [98] ⟨false, [], true, 47⟩ 1 4 [] none).map (fun r => (r.uploads.map (·.id), r.prefixes, r.truncated, r.nextKey, r.nextId)) =
    [([1], [], true, [97], some 3), ([3], [], true, [100, 47, 120], some 2), ([4], [[100, 47]], false, [], none)] := by decide +kernel

end GFS.Props.C14P
