import GFS.Generated.LockFacts
/-
  C07: the critical-section structure the schedule theorems (Props/C07S) assume, checked against the
  source: an upload is "read the body and merge the metadata WITHOUT the lock, then ONE atomic commit",
  every other request one atomic step, a part upload / complete atomic under the uploader's locks.
  `GFS.Generated.lockTrace` is re-extracted from /repo on every run (harness/cmd/extract, go/ast): per
  method the lock operations, verif gates, accesses to the shared maps and the calls that matter, in
  source order.  The theorems are decided over that table; a changed lock discipline makes ./check C07 fail.
-/
namespace GFS.Props.C07Gen
open GFS.Generated

abbrev Ev := String × String

def traceOf (name : String) : List Ev := ((lockTrace.lookup name).map (·.2)).getD []

def isLock (e : Ev) : Bool := e.1 == "Lock" || e.1 == "RLock"
def isBareUnlock (e : Ev) : Bool := e.1 == "Unlock" || e.1 == "RUnlock"
def deferOf (e : Ev) : Ev := (if e.1 == "RLock" then "defer RUnlock" else "defer Unlock", e.2)

/-- a lock is taken and its release deferred in the next statement; nothing is unlocked by hand -/
def lockThenDefer : List Ev → Bool
  | [] => true
  | e :: rest =>
    if isBareUnlock e then false
    else if isLock e then rest.head? == some (deferOf e) && lockThenDefer rest
    else lockThenDefer rest

def touchesState (e : Ev) : Bool :=
  e.1 == "index" || (e.1 == "call" && ["put", "rm", "rmVersion", "setVersioning", "remove", "add", "getUnlocked",
    "deleteObjectLocked", "Create", "saveMeta", "loadMeta", "Remove", "removeEmptyDirsLocked", "object", "objectVersion",
    "Open"].contains e.2)

/-- no state is touched before the first lock operation of the method -/
def guarded : List Ev → Bool
  | [] => true
  | e :: rest => if isLock e then true else if touchesState e then false else guarded rest

/-- helpers whose callers hold the lock (their names say so) and the version-id helper -/
def helpers : List String :=
  ["gofakes3.uploader.getUnlocked", "s3mem.Backend.nextVersion",
   "s3aferoM.MultiBucketBackend.deleteObjectLocked", "s3aferoM.MultiBucketBackend.getBucketWithArbitraryPrefixLocked",
   "s3aferoM.MultiBucketBackend.getBucketWithFilePrefixLocked", "s3aferoM.MultiBucketBackend.removeEmptyDirsLocked",
   "s3aferoS.SingleBucketBackend.deleteObjectLocked", "s3aferoS.SingleBucketBackend.getBucketWithArbitraryPrefixLocked",
   "s3aferoS.SingleBucketBackend.getBucketWithFilePrefixLocked", "s3aferoS.SingleBucketBackend.removeEmptyDirsLocked",
   "s3aferoS.SingleBucketBackend.ensureMeta"]

/-- the types whose methods guard shared state with their own mutex (s3bolt keeps its state in bolt
    transactions; the methods of `multipartUpload` / `bucketUploads` are called with the locks held) -/
def lockedTypes : List String :=
  ["s3mem.Backend", "gofakes3.uploader", "s3aferoM.MultiBucketBackend", "s3aferoS.SingleBucketBackend"]

/-- **lock_discipline**: in every method of s3mem, s3afero (multi and single) and the uploader a
    lock that is taken is released by the `defer` that follows it and by nothing else — no method
    drops a lock in the middle and retakes it, none starts a goroutine — and no shared map, object
    file or metadata record is touched before the method's first lock operation. -/
theorem lock_discipline :
    lockTrace.all (fun r => lockThenDefer r.2.2 && !(r.2.2.any (·.1 == "go")) &&
      (!lockedTypes.contains r.2.1 || helpers.contains r.1 || guarded r.2.2)) = true := by decide +kernel

def takesLock (name : String) : Bool := (traceOf name).any isLock

def selfcallsAfterLock : List Ev → List String
  | [] => []
  | e :: rest => if isLock e then (rest.filter (·.1 == "selfcall")).map (·.2) else selfcallsAfterLock rest

/-- **no_relock**: Go's mutexes are not reentrant — no method that holds its receiver's lock calls
    an exported method of the same receiver that takes the lock again (a failure path that does
    would wedge the whole server). -/
theorem no_relock : lockTrace.all (fun r => (selfcallsAfterLock r.2.2).all (fun n => !takesLock n)) = true := by decide +kernel

/-- **mem_put_sections**: s3mem PutObject is exactly the micro-step structure of the schedule
    model: body read (gate), metadata merge (gate) — both without the lock — then the write lock,
    held to the end, under which the bucket is looked up, the time read and the item stored. -/
theorem mem_put_sections : traceOf "s3mem.Backend.PutObject" =
    [("call", "ReadAll"), ("gate", "s3mem.PutObject.afterRead"), ("call", "MergeMetadata"), ("gate", "s3mem.PutObject.afterMerge"),
     ("Lock", "db.lock"), ("defer Unlock", "db.lock"), ("index", "db.buckets"), ("call", "Now"), ("call", "put")] := by decide +kernel

/-- the other writers of s3mem are one critical section each -/
theorem mem_writers_atomic :
    ["s3mem.Backend.DeleteObject", "s3mem.Backend.DeleteMulti", "s3mem.Backend.DeleteObjectVersion",
     "s3mem.Backend.DeleteMultiVersions", "s3mem.Backend.CreateBucket", "s3mem.Backend.DeleteBucket",
     "s3mem.Backend.ForceDeleteBucket", "s3mem.Backend.SetVersioningConfiguration"].all
      (fun n => (traceOf n).take 2 == [("Lock", "db.lock"), ("defer Unlock", "db.lock")]) = true := by decide +kernel

/-- the readers of s3mem take the read lock first and keep it -/
theorem mem_readers_atomic :
    ["s3mem.Backend.GetObject", "s3mem.Backend.HeadObject", "s3mem.Backend.ListBucket", "s3mem.Backend.ListBucketVersions",
     "s3mem.Backend.ListBuckets", "s3mem.Backend.BucketExists", "s3mem.Backend.VersioningConfiguration"].all
      (fun n => (traceOf n).take 2 == [("RLock", "db.lock"), ("defer RUnlock", "db.lock")]) = true := by decide +kernel

/-- **uploader_sections**: a part upload reads its body without a lock (gate), then holds the
    uploader's lock and the upload's lock to the end; a complete holds both across the backend's
    PutObject and the removal of the upload (nothing can slip in between "stored" and "gone");
    abort, initiate and the listings are one critical section each. -/
theorem uploader_sections :
    (traceOf "gofakes3.uploader.UploadPart").take 7 =
      [("call", "ReadAll"), ("gate", "uploader.UploadPart.afterRead"), ("Lock", "u.mu"), ("defer Unlock", "u.mu"),
       ("call", "getUnlocked"), ("Lock", "mpu.mu"), ("defer Unlock", "mpu.mu")] ∧
    (traceOf "gofakes3.uploader.CompleteMultipartUpload").take 5 =
      [("Lock", "u.mu"), ("defer Unlock", "u.mu"), ("call", "getUnlocked"), ("Lock", "mpu.mu"), ("defer Unlock", "mpu.mu")] ∧
    (traceOf "gofakes3.uploader.CompleteMultipartUpload").filter (fun e => e == ("call", "PutObject") || e == ("call", "remove")) =
      [("call", "PutObject"), ("call", "remove")] ∧
    ["gofakes3.uploader.AbortMultipartUpload", "gofakes3.uploader.CreateMultipartUpload",
     "gofakes3.uploader.ListMultipartUploads", "gofakes3.uploader.ListParts"].all
      (fun n => (traceOf n).take 2 == [("Lock", "u.mu"), ("defer Unlock", "u.mu")]) = true := by decide +kernel

/-- **fs_sections**: the file-system backends read and validate the body and merge the metadata
    before taking their lock, write under it, and a download reads its bytes under the lock. -/
theorem fs_sections :
    ["s3aferoM.MultiBucketBackend.PutObject", "s3aferoS.SingleBucketBackend.PutObject"].all
      (fun n => (traceOf n).take 5 ==
        [("call", "ReadAll"), ("call", "MergeMetadata"), ("gate", "s3afero.PutObject.afterMerge"), ("Lock", "db.lock"),
         ("defer Unlock", "db.lock")]) = true ∧
    ["s3aferoM.MultiBucketBackend.GetObject", "s3aferoS.SingleBucketBackend.GetObject"].all
      (fun n => (traceOf n).take 2 == [("Lock", "db.lock"), ("defer Unlock", "db.lock")] &&
        (traceOf n).contains ("call", "ReadAll")) = true := by decide +kernel

/-- **bolt_sections**: s3bolt reads the body and merges the metadata before it opens its write
    transaction (a stalled upload blocks no other writer) and every other method is one transaction. -/
theorem bolt_sections :
    traceOf "s3bolt.Backend.PutObject" =
      [("call", "ReadAll"), ("gate", "s3bolt.PutObject.afterRead"), ("call", "MergeMetadata"), ("gate", "s3bolt.PutObject.afterMerge"),
       ("call", "Now"), ("call", "Update"), ("closure", ""), ("call", "Put")] ∧
    ["s3bolt.Backend.DeleteObject", "s3bolt.Backend.DeleteMulti", "s3bolt.Backend.DeleteBucket", "s3bolt.Backend.CreateBucket",
     "s3bolt.Backend.ForceDeleteBucket"].all (fun n => ((traceOf n).filter (· == ("call", "Update"))).length == 1) = true ∧
    ["s3bolt.Backend.GetObject", "s3bolt.Backend.ListBucket", "s3bolt.Backend.ListBuckets", "s3bolt.Backend.BucketExists"].all
      (fun n => ((traceOf n).filter (· == ("call", "View"))).length == 1 && !(traceOf n).contains ("call", "Update")) = true := by
  decide +kernel

end GFS.Props.C07Gen
