import GFS.Props.C13L
import GFS.Props.C14U
/-
  C13 / C14: the common prefixes of the unpaginated ListObjectVersions and ListMultipartUploads are
  reported exactly once each, and exactly those that some key groups under (`Prefix.Match` says
  "common prefix") — the grouping clause of C03 carried over to the two other listings.
-/
namespace GFS.Props.CPfx
open GFS.Model GFS.Props.C03G

/-- **versions_prefixes_once**: in the unpaginated version listing every common prefix appears once,
    and a prefix appears exactly when some key of the bucket is grouped under it -/
theorem versions_prefixes_once (m : Mem) (b : Bytes) (bk : Bucket) (hb : SMap.find m.buckets b = some bk) (p : Prefix) :
    ∃ r, m.listVersions b p [] none 0 = .ok r ∧ r.truncated = false ∧ r.prefixes.Nodup ∧
      ∀ x, x ∈ r.prefixes ↔ ∃ q ∈ bk.objects, C13L.prefixOfKey p q = some x :=
  ⟨_, C13L.listVersions_exact m b bk hb p, rfl, addAll_nil_nodup _,
    fun x => by simp only [mem_addAll_nil, List.mem_filterMap]⟩

/-- **uploads_prefixes_once**: the same for ListMultipartUploads without marker, when the number of
    uploads it reports is below the limit -/
theorem uploads_prefixes_once (u : Upl) (b : Bytes) (bu : BUps) (hb : SMap.find u.buckets b = some bu) (p : Prefix) (limit : Int)
    (h : C14U.total p bu.index < limit) :
    ∃ r, u.listUploads b p [] none limit = .ok r ∧ r.truncated = false ∧ r.prefixes.Nodup ∧
      ∀ x, x ∈ r.prefixes ↔ ∃ q ∈ bu.index, C14U.prefixOfKey p q = some x :=
  ⟨_, C14U.listUploads_exact u b bu hb p limit h, rfl, addAll_nil_nodup _,
    fun x => by simp only [mem_addAll_nil, List.mem_filterMap]⟩

end GFS.Props.CPfx
