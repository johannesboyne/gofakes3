import GFS.Lemmas.MemOps
/-
  C07 — concurrent clients see linearizable behaviour (the logic of it).
  In the code an upload is three steps: read the body (no lock), read the existing metadata
  (read lock, released), commit (write lock).  Every other s3mem operation is one step under a
  lock.  The theorems below are each about ONE such step; whole interleavings are in Props/C07S.
-/
namespace GFS.Props.C07
open GFS.Model GFS.SMapL

/-! ### what a reader can observe of a version, metadata aside -/

def vproj (v : Ver) : Nat × Bool × Bytes × Bytes := (v.id, v.marker, v.body, v.hash)
def oproj (o : Obj) : Option (Nat × Bool × Bytes × Bytes) × List (Nat × Bool × Bytes × Bytes) :=
  (o.data.map vproj, o.versions.map vproj)
def bproj (bk : Bucket) := (bk.versioning, mapV oproj bk.objects)
def mproj (m : Mem) := (mapV bproj m.buckets, m.nextVer)

/-- **commit_independent_of_merge_read**: the commit step of an upload produces the same
    answer (version id) and the same store — bodies, lengths, ETags, version ids, delete markers,
    archived versions, of every key of every bucket — whatever metadata snapshot the earlier,
    unlocked merge step happened to read. -/
theorem commit_independent_of_merge_read (md5 : Bytes → Bytes) (m : Mem) (b : Bytes) (k : Key) (md1 md2 : Meta) (body : Bytes) :
    (m.putCommit md5 b k md1 body).2 = (m.putCommit md5 b k md2 body).2 ∧
    mproj (m.putCommit md5 b k md1 body).1 = mproj (m.putCommit md5 b k md2 body).1 := by
  unfold Mem.putCommit
  cases SMap.find m.buckets b with
  | none => exact ⟨rfl, rfl⟩
  | some bk =>
    refine ⟨rfl, ?_⟩
    simp only [mproj, mapV_insert, bproj, Bucket.put, oproj, vproj, Option.map_some]

/-- an upload overtaken between its merge read (state `m0`) and its commit (state `m`) versus
    the same upload executed atomically at the commit point -/
theorem overtaken_upload_linearizes (md5 : Bytes → Bytes) (m0 m : Mem) (b : Bytes) (k : Key) (md : Meta) (body : Bytes) :
    (m.putCommit md5 b k (m0.mergedMeta b k md) body).2 = (m.put md5 b k md body).2 ∧
    mproj (m.putCommit md5 b k (m0.mergedMeta b k md) body).1 = mproj (m.put md5 b k md body).1 :=
  commit_independent_of_merge_read md5 m b k _ _ body

/-! ### a read returns, in full, one upload: body, length and ETag always belong together -/

def VerOk (md5 : Bytes → Bytes) (v : Ver) : Prop := v.marker = true ∨ v.hash = md5 v.body
def ObjOk (md5 : Bytes → Bytes) (o : Obj) : Prop := (∀ d, o.data = some d → VerOk md5 d) ∧ ∀ v ∈ o.versions, VerOk md5 v
def BOk (md5 : Bytes → Bytes) (bk : Bucket) : Prop := ∀ p ∈ bk.objects, ObjOk md5 p.2
def Consistent (md5 : Bytes → Bytes) (m : Mem) : Prop := ∀ q ∈ m.buckets, BOk md5 q.2

theorem bput_ok (md5 : Bytes → Bytes) (bk : Bucket) (k : Key) (item : Ver) (h : BOk md5 bk) (hi : VerOk md5 item) :
    BOk md5 (bk.put k item) := by
  rw [Bucket.put_eq]
  exact Bucket.storeObj_all h fun _ => Obj.push_all
    (Bucket.old_rec (P := ObjOk md5) ⟨nofun, nofun⟩ fun o hf => h _ (SMap.find_some_mem hf)) hi

/-- **commit_keeps_consistency**: whatever was read when (any `md'`), the commit step stores a
    version whose ETag is the digest of exactly its own bytes, and disturbs no other version -/
theorem commit_keeps_consistency (md5 : Bytes → Bytes) (m : Mem) (b : Bytes) (k : Key) (md' : Meta) (body : Bytes)
    (h : Consistent md5 m) : Consistent md5 (m.putCommit md5 b k md' body).1 := by
  unfold Mem.putCommit
  cases hb : SMap.find m.buckets b with
  | none => exact h
  | some bk => exact forall_mem_insert h b (bput_ok md5 bk k _ (h _ (SMap.find_some_mem hb)) (Or.inr rfl))

/-- **read_is_one_whole_upload**: in a consistent store every successful read returns a body
    together with the digest of exactly that body — never a mixture, a truncated body, or an
    ETag that belongs to other bytes -/
theorem read_is_one_whole_upload (md5 : Bytes → Bytes) (m : Mem) (b : Bytes) (k : Key) (v : Ver)
    (h : Consistent md5 m) (hg : m.get b k = .ok v) : v.hash = md5 v.body := by
  obtain ⟨bk, o, hb, ho, hd, hmk⟩ := Mem.get_eq_ok.mp hg
  rcases (h _ (SMap.find_some_mem hb) _ (SMap.find_some_mem ho)).1 v hd with e | e
  · rw [hmk] at e; cases e
  · exact e

/-! ### the id counter under one commit step, one delete -/

/-- **commit_id_fresh**: a commit step into an existing bucket moves the counter up by one, and
    the id it reports, if any, is the counter's new value -/
theorem commit_id_fresh (md5 : Bytes → Bytes) (m : Mem) (b : Bytes) (k : Key) (md' : Meta) (body : Bytes) (bk : Bucket)
    (hb : SMap.find m.buckets b = some bk) :
    (m.putCommit md5 b k md' body).1.nextVer = m.nextVer + 1 ∧
    ((m.putCommit md5 b k md' body).2 = .ok (some (m.nextVer + 1)) ∨ (m.putCommit md5 b k md' body).2 = .ok none) := by
  unfold Mem.putCommit
  simp only [hb]
  refine ⟨trivial, ?_⟩
  split
  · exact Or.inl rfl
  · exact Or.inr rfl

theorem counter_monotone_delete (m : Mem) (b : Bytes) (k : Key) : m.nextVer ≤ (m.delete b k).1.nextVer := by
  unfold Mem.delete
  cases SMap.find m.buckets b with
  | none => exact Nat.le_refl _
  | some bk => simp only; split <;> omega

example : Consistent id Mem.empty := nofun

end GFS.Props.C07
