import GFS.Model.Upload
import GFS.Lemmas.MemOps
import GFS.Lemmas.ResLemmas
/-
  C08 — corrupt or short uploads are rejected and never change stored state.
  Memory/bolt upload path (`ReadAll` before any state change), parametric in the digest.
-/
namespace GFS.Props.C08
open GFS.Model

/-- **md5_accepted_iff**: when the stream ends normally with exactly the declared number of
    bytes, the body is accepted exactly when no digest was given or the given digest is the
    digest of the bytes received; otherwise the answer is BadDigest. -/
theorem md5_accepted_iff (md5 : Bytes → Bytes) (body : Bytes) (expected : Option Bytes) :
    readAllHashing md5 body.length body .eof expected =
      (match expected with
       | none => .ok body
       | some d => if d = md5 body then .ok body else .err .BadDigest) := by
  unfold readAllHashing digestOk
  have h1 : ¬ ((body.length : Int) < 0) := by omega
  cases expected with
  | none => simp [h1]
  | some d =>
    by_cases hd : d = md5 body <;> simp [h1, hd]

theorem readAllHashing_eq_ok {md5 : Bytes → Bytes} {size : Int} {body : Bytes} {tail : BodyEnd}
    {expected : Option Bytes} {r : Bytes} :
    readAllHashing md5 size body tail expected = .ok r ↔
      r = body ∧ (body.length : Int) = size ∧ tail = .eof ∧ digestOk md5 body expected = true := by
  unfold readAllHashing
  cases tail
  · simp only [Res.ite_panic_eq_ok, Res.ite_err_eq_ok]
    by_cases hl : (body.length : Int) = size
    · simp only [if_pos hl, Res.ok.injEq]
      constructor
      · rintro ⟨-, hd, rfl⟩; exact ⟨rfl, hl, trivial, by simpa using hd⟩
      · rintro ⟨rfl, -, -, hd⟩; exact ⟨Int.not_lt.mpr (hl ▸ Int.natCast_nonneg _), by simpa using hd, rfl⟩
    · simp only [if_neg hl, Res.ite_err_eq_ok, reduceCtorEq, and_false, false_iff]
      exact fun h => hl h.2.1
  · simp [Res.ite_panic_eq_ok]

/-- **length_mismatch_refused**: a body shorter or longer than the declared length is never
    accepted, whatever the digest header says and however the stream ends. -/
theorem length_mismatch_refused (md5 : Bytes → Bytes) (size : Int) (body : Bytes) (tail : BodyEnd) (expected : Option Bytes)
    (h : (body.length : Int) ≠ size) : ∀ r, readAllHashing md5 size body tail expected ≠ .ok r :=
  fun _ hr => h (readAllHashing_eq_ok.mp hr).2.1

/-- **failing_reader_refused**: when the body stream breaks off with an error, nothing is accepted, whatever
    bytes arrived before and whatever the headers declare -/
theorem failing_reader_refused (md5 : Bytes → Bytes) (size : Int) (body : Bytes) (expected : Option Bytes) :
    ∀ r, readAllHashing md5 size body .fail expected ≠ .ok r :=
  fun _ hr => nomatch (readAllHashing_eq_ok.mp hr).2.2.1

/-- what is accepted is exactly the body that arrived, complete, with a matching digest -/
theorem accepted_is_body (md5 : Bytes → Bytes) (size : Int) (body : Bytes) (tail : BodyEnd) (expected : Option Bytes) (r : Bytes)
    (h : readAllHashing md5 size body tail expected = .ok r) :
    r = body ∧ (body.length : Int) = size ∧ tail = .eof ∧ (∀ d, expected = some d → d = md5 body) := by
  obtain ⟨h1, h2, h3, h4⟩ := readAllHashing_eq_ok.mp h
  exact ⟨h1, h2, h3, fun d hd => by subst hd; simpa [digestOk] using h4⟩

/-- **rejected_unchanged**: whatever the state, configuration, key, headers and body stream
    (failing reader, wrong/malformed/empty digest, short or long body, oversized key or metadata,
    bad length, plain or aws-chunked): an upload that is not acknowledged leaves the store as it
    was when the handler started on the bucket (i.e. after auto-bucket creation, if any). -/
theorem rejected_unchanged (md5 : Bytes → Bytes) (cfg : Cfg) (ucfg : UploadCfg) (m : Mem) (b : Bytes) (k : Key) (rq : UploadReq)
    (hrej : ∀ h v, (Front.createObject md5 cfg ucfg m b k rq).2 ≠ .stored h v) :
    (Front.createObject md5 cfg ucfg m b k rq).1 = (Front.ensureBucket cfg m b).1 := by
  unfold Front.createObject Front.withBucket at *
  cases he : Front.ensureBucket cfg m b with
  | mk m1 r =>
    rw [he] at hrej
    cases r with
    | err c | panic s => rfl
    | ok u =>
      cases hc : Front.uploadChecks md5 ucfg k rq with
      | err c | panic s => rfl
      | ok bytes =>
        simp only [hc] at hrej ⊢
        obtain ⟨v, hp⟩ | ⟨c, hp⟩ := Res.pair_ok_or_err (Mem.put_noPanic md5 m1 b k rq.md bytes)
        · exact absurd (by rw [hp]) (hrej (md5 bytes) v)
        · rw [hp]
          exact Mem.put_err_unchanged hp

theorem uploadChecks_plain {md5 : Bytes → Bytes} {ucfg : UploadCfg} {k : Key} {rq : UploadReq} {bytes : Bytes}
    (hs : rq.streaming = false) (h : Front.uploadChecks md5 ucfg k rq = .ok bytes) :
    k.length ≤ Front.KeySizeLimit ∧ ∃ size expected,
      readAllHashing md5 size rq.body rq.tail expected = .ok bytes ∧
      (ucfg.integrity = true → ∀ d, rq.md5 = .digest d → expected = some d) := by
  unfold Front.uploadChecks at h
  simp only [hs, Bool.false_eq_true, if_false, Res.ite_err_eq_ok] at h
  obtain ⟨-, h⟩ := h
  cases hcl : rq.contentLength with
  | none => rw [hcl] at h; cases h
  | some cl =>
  cases hp : parseInt64 cl with
  | none => simp only [hcl, hp] at h; cases h
  | some size =>
  simp only [hcl, hp, Res.ite_err_eq_ok] at h
  obtain ⟨-, hk, -, h⟩ := h
  refine ⟨Nat.le_of_not_gt hk, size, ?_⟩
  split at h
  · cases h
  · cases h
  · next expected he =>
    refine ⟨expected, h, fun hi d hd => ?_⟩
    simp only [hi, hd, Bool.not_true, Bool.false_eq_true, if_false, Res.ok.injEq] at he
    exact he.symm

/-- an acknowledged plain (not aws-chunked) upload stored exactly the bytes that arrived, all of them,
    and any digest that was sent (with integrity checking on) is their digest -/
theorem accepted_checks (md5 : Bytes → Bytes) (ucfg : UploadCfg) (k : Key) (rq : UploadReq) (bytes : Bytes)
    (hs : rq.streaming = false) (h : Front.uploadChecks md5 ucfg k rq = .ok bytes) :
    bytes = rq.body ∧ rq.tail = .eof ∧ k.length ≤ Front.KeySizeLimit ∧
    (ucfg.integrity = true → ∀ d, rq.md5 = .digest d → d = md5 rq.body) := by
  obtain ⟨hk, size, expected, hr, he⟩ := uploadChecks_plain hs h
  obtain ⟨e1, -, e3, e4⟩ := accepted_is_body md5 size rq.body rq.tail _ bytes hr
  exact ⟨e1, e3, hk, fun hi d hd => e4 d (he hi d hd)⟩

/-! Non-vacuity: a request with a wrong digest is rejected, with the right one accepted. -/
example : Front.uploadChecks id {} [107] ⟨some [51], .digest [1, 2, 3], false, none, [], [1, 2, 3], .eof⟩ = .ok [1, 2, 3] := by decide +kernel
example : Front.uploadChecks id {} [107] ⟨some [51], .digest [9, 9, 9], false, none, [], [1, 2, 3], .eof⟩ = .err .BadDigest := by decide +kernel
example : Front.uploadChecks id {} [107] ⟨some [52], .absent, false, none, [], [1, 2, 3], .eof⟩ = .err .IncompleteBody := by decide +kernel

end GFS.Props.C08
