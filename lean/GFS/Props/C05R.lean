import GFS.Props.C13S
import GFS.Props.SpecV
/-
  C05 as a refinement over whole histories: the versioned bucket of s3mem (Model/Mem: bucket.put,
  bucket.rm, bucket.rmVersion with promote, setVersioning, the id generator) refines the
  specification machine Spec.Versions over EVERY finite sequence of uploads, plain deletes,
  deletes of a specific version and versioning changes in which no upload or plain delete happens
  while versioning is Suspended (that case is the known finding D5).
  After every such sequence an unqualified read answers exactly what the specification's
  `get` answers and a read by id what `getVersion` answers, for every key and every id.
-/
namespace GFS.Props.C05R
open GFS.Model GFS.Props.C13I
open GFS.Spec.Versions (VEntry VBucket Status entriesOf setKey)

/-- the entries of a key in creation order: archived versions, then the current one -/
def ents (bk : Bucket) (k : Key) : List Ver :=
  match SMap.find bk.objects k with
  | none => []
  | some o => o.versions ++ o.data.toList

abbrev Proj := Nat × Bool × Bytes
def vproj (v : Ver) : Proj := (v.id, v.marker, v.body)
def eproj (e : VEntry) : Proj := (e.id, e.marker, e.body)

def toStatus : VStatus → Status
  | .none => .never
  | .enabled => .enabled
  | .suspended => .suspended

/-- the abstraction relation between a bucket of the store and the specification's bucket -/
structure Rel (bk : Bucket) (vb : VBucket) : Prop where
  status : vb.status = toStatus bk.versioning
  same   : ∀ k, (ents bk k).map vproj = (entriesOf vb k).map eproj
  neverM : bk.versioning = .none → ∀ k o, SMap.find bk.objects k = some o → o.versions = []
  neverS : bk.versioning = .none → ∀ k, ∀ e ∈ entriesOf vb k, e.born = false

theorem status_setKey (vb : VBucket) (k : Bytes) (es : List VEntry) : (setKey vb k es).status = vb.status := rfl

/-! ### the store side: what each bucket operation does to `ents` -/

/-- the entries of a key are those of the object `Bucket.old` finds (none for an absent key) -/
theorem ents_old (bk : Bucket) (k : Key) : (bk.old k).versions ++ (bk.old k).data.toList = ents bk k := by
  unfold ents Bucket.old; cases SMap.find bk.objects k <;> rfl

theorem ents_storeObj (bk : Bucket) (k k' : Key) (o : Obj) :
    ents (bk.storeObj k o) k' = if k = k' then o.versions ++ o.data.toList else ents bk k' := by
  rw [← ents_old, ← ents_old, Bucket.old_storeObj]
  split <;> rfl

theorem ents_put_enabled (N : Nat) (bk : Bucket) (k k' : Key) (item : Ver) (hv : bk.versioning = .enabled)
    (hob : ∀ o, SMap.find bk.objects k = some o → ObjB N o) :
    ents (bk.put k item) k' = if k = k' then ents bk k ++ [item] else ents bk k' := by
  rw [Bucket.put_eq, ents_storeObj, hv, beq_self_eq_true, push_versions item (old_objB hob), ents_old]
  rfl

theorem ents_put_plain (bk : Bucket) (k k' : Key) (item : Ver) (hv : bk.versioning ≠ .enabled)
    (hnv : ∀ o, SMap.find bk.objects k = some o → o.versions = []) :
    ents (bk.put k item) k' = if k = k' then [item] else ents bk k' := by
  rw [Bucket.put_eq, ents_storeObj, beq_false_of_ne hv]
  simp only [Obj.push, Bool.false_eq_true, if_false, Bucket.old_versions_nil hnv, Option.toList, List.nil_append]

/-- `rmVersion` removes the entry with that id, and nothing else -/
theorem rmVer_all {N : Nat} {o : Obj} (h : o = ⟨none, []⟩ ∨ ObjB N o) (vid : Nat) :
    (o.rmVer vid).1.versions ++ (o.rmVer vid).1.data.toList = (o.versions ++ o.data.toList).filter (fun w => !(w.id == vid)) := by
  rcases h with rfl | ⟨d, h1, _, h3, _⟩
  · rfl
  rw [Obj.rmVer_fst, List.filter_append, h1]
  simp only [Option.any_some, Option.toList_some, List.filter_cons, List.filter_nil]
  by_cases hv : (d.id == vid) = true
  · -- the current version goes: no archived one has its id
    cases beq_iff_eq.mp hv
    have hvs : o.versions.filter (fun w => !(w.id == d.id)) = o.versions :=
      List.filter_eq_self.mpr fun v hv' => by rw [archived_id_ne h3 v hv']; rfl
    simp only [hv, if_true, Obj.dropCurrent_all, hvs, Bool.not_true, Bool.false_eq_true, if_false, List.append_nil]
  · rw [Bool.not_eq_true] at hv
    simp only [hv, Bool.false_eq_true, if_false, Bool.not_false, if_true, Option.toList_some]

theorem ents_rmVersion (N : Nat) (bk : Bucket) (k k' : Key) (vid : Nat)
    (hob : ∀ o, SMap.find bk.objects k = some o → ObjB N o) :
    ents (bk.rmVersion k vid).1 k' =
      if k = k' then (ents bk k).filter (fun w => !(w.id == vid)) else ents bk k' := by
  rw [Bucket.rmVersion_eq_old, ents_storeObj, rmVer_all (old_objB hob), ents_old]

inductive HOp where
  | put (k : Key) (md : Meta) (body : Bytes)
  | del (k : Key)
  | delVer (k : Key) (id : Nat)
  | setV (enabled : Bool)

def HOp.isWrite : HOp → Bool
  | .put .. => true
  | .del _ => true
  | _ => false

/-- one operation on bucket `b` of the store -/
def mstep (md5 : Bytes → Bytes) (b : Bytes) (m : Mem) : HOp → Mem
  | .put k md body => (m.put md5 b k md body).1
  | .del k => (m.delete b k).1
  | .delVer k id => (m.deleteVersion b k id).1
  | .setV e => (m.setVersioning b e).1

/-- the same operation on the specification's bucket; `n` is the id the store hands out next -/
def sstep (n : Nat) (vb : VBucket) : HOp → VBucket
  | .put k _ body => Spec.Versions.put vb k n body
  | .del k => Spec.Versions.delete vb k n
  | .delVer k id => Spec.Versions.deleteVersion vb k id
  | .setV e => Spec.Versions.setStatus vb e

def MRel (m : Mem) (b : Bytes) (vb : VBucket) : Prop :=
  ∃ bk, SMap.find m.buckets b = some bk ∧ Rel bk vb

theorem notEnabled_of {bk : Bucket} {vb : VBucket} (r : Rel bk vb) (h1 : bk.versioning ≠ .enabled)
    (h2 : vb.status ≠ .suspended) : bk.versioning = .none := by
  have := r.status
  cases hv : bk.versioning with
  | none => rfl
  | enabled => exact absurd hv h1
  | suspended => rw [hv] at this; exact absurd this h2

theorem filter_born_nil (es : List VEntry) (h : ∀ e ∈ es, e.born = false) : es.filter (·.born) = [] := by
  apply List.filter_eq_nil_iff.mpr
  intro e he
  simp [h e he]

/-- rewriting one key on both sides keeps the relation -/
theorem Rel.storeObj {bk : Bucket} {vb : VBucket} (r : Rel bk vb) (k : Key) {o : Obj} {es : List VEntry}
    (hsame : (o.versions ++ o.data.toList).map vproj = es.map eproj)
    (hM : bk.versioning = .none → o.versions = [])
    (hS : bk.versioning = .none → ∀ e ∈ es, e.born = false) :
    Rel (bk.storeObj k o) (setKey vb k es) where
  status := by rw [Bucket.storeObj_versioning]; exact r.status
  same k' := by
    rw [ents_storeObj, SpecV.entriesOf_setKey]
    split
    · exact hsame
    · exact r.same k'
  neverM hv k' o' ho := by
    rw [Bucket.storeObj_versioning] at hv
    rw [Bucket.find_storeObj] at ho
    by_cases hk : k = k'
    · rw [if_pos hk] at ho
      cases (Option.ite_none_left_eq_some.mp ho).2
      exact hM hv
    · rw [if_neg hk] at ho; exact r.neverM hv k' o' ho
  neverS hv k' e he := by
    rw [Bucket.storeObj_versioning] at hv
    rw [SpecV.entriesOf_setKey] at he
    split at he
    · exact hS hv e he
    · exact r.neverS hv k' e he

theorem rmVer_versions_nil {o : Obj} (vid : Nat) (h : o.versions = []) : (o.rmVer vid).1.versions = [] := by
  obtain ⟨d, vs⟩ := o
  subst h
  rw [Obj.rmVer_fst]
  split <;> rfl

/-- `setVersioning` never returns a bucket to the never-versioned state -/
theorem setV_none {v : VStatus} {e : Bool}
    (h : (if e then VStatus.enabled else if v == .enabled then .suspended else v) = .none) : v = .none := by
  cases e <;> cases v <;> first | rfl | cases h

/-- an upload or a delete marker `item`, entered as `e` in the specification -/
theorem Rel.put {N : Nat} {bk : Bucket} {vb : VBucket} (r : Rel bk vb) (hw : vb.status ≠ .suspended) (k : Key)
    (hob : ∀ o, SMap.find bk.objects k = some o → ObjB N o) {item : Ver} {e : VEntry} (hie : vproj item = eproj e)
    (hborn : e.born = (vb.status == .enabled)) :
    Rel (bk.put k item) (setKey vb k ((if vb.status == .enabled then entriesOf vb k else (entriesOf vb k).filter (·.born)) ++ [e])) := by
  rw [Bucket.put_eq]
  by_cases hv : bk.versioning = .enabled
  · have hs : vb.status = .enabled := by rw [r.status, hv]; rfl
    refine r.storeObj k ?_ (fun h => by rw [hv] at h; cases h) (fun h => by rw [hv] at h; cases h)
    simp only [hv, hs, beq_self_eq_true, if_true, push_versions item (old_objB hob), ents_old, List.map_append, r.same k]
    simp [Obj.push, hie]
  · -- not Enabled and (`hw`) not Suspended: never versioned, so nothing is archived (`neverM`) and no entry
    -- is born (`neverS`); the new version or entry stands alone on both sides
    have hnone := notEnabled_of r hv hw
    have hs : (vb.status == Status.enabled) = false := by rw [r.status, hnone]; rfl
    have hvs := Bucket.old_versions_nil (r.neverM hnone k)
    refine r.storeObj k ?_ (fun _ => by simp [Obj.push, hnone, hvs]) ?_
    · simp [Obj.push, hnone, hvs, hs, filter_born_nil _ (r.neverS hnone k), hie]
    · intro _ e' he'
      simp only [hs, Bool.false_eq_true, if_false, filter_born_nil _ (r.neverS hnone k), List.nil_append, List.mem_singleton] at he'
      rw [he', hborn, hs]

theorem Rel.rm {N : Nat} {bk : Bucket} {vb : VBucket} (r : Rel bk vb) (hw : vb.status ≠ .suspended) (k : Key)
    (hob : ∀ o, SMap.find bk.objects k = some o → ObjB N o) (f : Nat) : Rel (bk.rm k f).1 (Spec.Versions.delete vb k f) := by
  rw [Bucket.rm_eq]
  have hsame := r.same k
  cases hf : SMap.find bk.objects k with
  | none =>
    have he : entriesOf vb k = [] := by simpa only [ents, hf, List.map_nil, List.map_eq_nil_iff] using hsame.symm
    simpa only [Spec.Versions.delete, he, List.isEmpty_nil, if_true] using r
  | some o =>
    obtain ⟨d, h1, _⟩ := hob o hf
    have he : (entriesOf vb k).isEmpty = false := by
      cases h : entriesOf vb k with
      | nil => simp [ents, hf, h1, h] at hsame
      | cons _ _ => rfl
    simp only [Spec.Versions.delete, he, Bool.false_eq_true, if_false]
    by_cases hv : bk.versioning = .enabled
    · have hs : vb.status = .enabled := by rw [r.status, hv]; rfl
      have := r.put (item := ⟨f, true, [], [], []⟩) (e := ⟨f, true, [], true⟩) hw k hob rfl (by rw [hs]; rfl)
      simpa only [hv, hs, beq_self_eq_true, if_true] using this
    · -- never versioned, as in `Rel.put`: the object has its current version only and the key goes on both sides
      have hnone := notEnabled_of r hv hw
      have hs : (vb.status == Status.enabled) = false := by rw [r.status, hnone]; rfl
      simp only [beq_false_of_ne hv, hs, Bool.false_eq_true, if_false]
      have hvs := r.neverM hnone k o hf
      refine r.storeObj k ?_ (fun _ => (List.append_eq_nil_iff.mp ((Obj.dropCurrent_all o).trans hvs)).1) ?_
      · rw [Obj.dropCurrent_all, hvs, filter_born_nil _ (r.neverS hnone k)]; rfl
      · rw [filter_born_nil _ (r.neverS hnone k)]; exact fun _ _ h => (List.not_mem_nil h).elim

theorem Rel.rmVersion {N : Nat} {bk : Bucket} {vb : VBucket} (r : Rel bk vb) (k : Key)
    (hob : ∀ o, SMap.find bk.objects k = some o → ObjB N o) (vid : Nat) :
    Rel (bk.rmVersion k vid).1 (Spec.Versions.deleteVersion vb k vid) := by
  rw [Bucket.rmVersion_eq_old]
  refine r.storeObj k ?_ ?_ (fun hv e he => r.neverS hv k e (List.mem_filter.mp he).1)
  · rw [rmVer_all (old_objB hob), ents_old]
    have := congrArg (List.filter fun p : Proj => !(p.1 == vid)) (r.same k)
    rwa [List.filter_map, List.filter_map] at this
  · exact fun hv => rmVer_versions_nil vid (Bucket.old_versions_nil (r.neverM hv k))

theorem Rel.setV {bk : Bucket} {vb : VBucket} (r : Rel bk vb) (e : Bool) :
    Rel { bk with versioning := if e then .enabled else if bk.versioning == .enabled then .suspended else bk.versioning }
      (Spec.Versions.setStatus vb e) := by
  refine ⟨?_, r.same, fun h => r.neverM (setV_none h), fun h => r.neverS (setV_none h)⟩
  simp only [Spec.Versions.setStatus, r.status]
  cases e <;> cases bk.versioning <;> rfl

/-- **step_refines**: one operation keeps the abstraction relation (and the store invariant) -/
theorem step_refines (md5 : Bytes → Bytes) (m : Mem) (b : Bytes) (vb : VBucket) (op : HOp)
    (hm : MInv m) (hr : MRel m b vb) (hw : op.isWrite = true → vb.status ≠ .suspended) :
    MInv (mstep md5 b m op) ∧ MRel (mstep md5 b m op) b (sstep (m.nextVer + 1) vb op) := by
  obtain ⟨bk, hb, r⟩ := hr
  have hob := objB_of_mInv hm hb
  cases op with
  | put k md body =>
    refine ⟨binv.put md5 hm b k md body trivial, ?_⟩
    simp only [mstep, Mem.put, Mem.putCommit, hb]
    exact ⟨_, SMap.find_insert_self _ _ _, r.put (hw rfl) k (hob k) rfl rfl⟩
  | del k =>
    refine ⟨binv.delete hm b k, ?_⟩
    simp only [mstep, Mem.delete, hb]
    exact ⟨_, SMap.find_insert_self _ _ _, r.rm (hw rfl) k (hob k) _⟩
  | delVer k vid =>
    refine ⟨binv.deleteVersion hm b k vid, ?_⟩
    simp only [mstep, Mem.deleteVersion, hb]
    exact ⟨_, SMap.find_insert_self _ _ _, r.rmVersion k (hob k) vid⟩
  | setV e =>
    refine ⟨binv.setVersioning hm b e, ?_⟩
    simp only [mstep, Mem.setVersioning, hb]
    exact ⟨_, SMap.find_insert_self _ _ _, r.setV e⟩

def obsGet (m : Mem) (b : Bytes) (k : Key) : Res Bytes :=
  match m.get b k with
  | .ok v => .ok v.body
  | .err c => .err c
  | .panic p => .panic p

def obsGetVersion (m : Mem) (b : Bytes) (k : Key) (id : Nat) : Res (Option Bytes) :=
  match m.getVersion b k id with
  | .ok v => .ok (if v.marker then none else some v.body)
  | .err c => .err c
  | .panic p => .panic p

/-- the answers of the two reads as functions of a key's projected entries: both the store
    (under its invariant) and the specification compute them -/
def getP (l : List Proj) : Res Bytes :=
  match l.getLast? with
  | none => .err .NoSuchKey
  | some e => if e.2.1 then .err .NoSuchKey else .ok e.2.2

def getVersionP (l : List Proj) (id : Nat) : Res (Option Bytes) :=
  if l.isEmpty then .err .NoSuchKey
  else match l.find? (·.1 == id) with
    | none => .err .NoSuchVersion
    | some e => .ok (if e.2.1 then none else some e.2.2)

theorem spec_get (vb : VBucket) (k : Key) : Spec.Versions.get vb k = getP ((entriesOf vb k).map eproj) := by
  unfold Spec.Versions.get Spec.Versions.newest getP
  rw [List.getLast?_map]; cases (entriesOf vb k).getLast? <;> rfl

theorem spec_getVersion (vb : VBucket) (k : Key) (id : Nat) :
    Spec.Versions.getVersion vb k id = getVersionP ((entriesOf vb k).map eproj) id := by
  unfold Spec.Versions.getVersion getVersionP
  rw [List.find?_map, List.isEmpty_map, show ((fun x : Proj => x.1 == id) ∘ eproj) = (fun e : VEntry => e.id == id) from rfl]
  by_cases he : (entriesOf vb k).isEmpty = true
  · simp only [he, if_true]
  · simp only [he]
    cases (entriesOf vb k).find? (fun e => e.id == id) <;> rfl

theorem store_get {N : Nat} {m : Mem} {b : Bytes} {bk : Bucket} (hb : SMap.find m.buckets b = some bk) (k : Key)
    (hob : ∀ o, SMap.find bk.objects k = some o → ObjB N o) : obsGet m b k = getP ((ents bk k).map vproj) := by
  unfold obsGet Mem.get Mem.current getP ents
  simp only [hb]
  cases hf : SMap.find bk.objects k with
  | none => rfl
  | some o =>
    obtain ⟨d, h1, _⟩ := hob o hf
    simp only [h1, Option.toList, List.map_append, List.map_cons, List.map_nil, List.getLast?_append, List.getLast?_singleton,
      Option.some_or]
    cases hm : d.marker <;> simp [vproj, hm]

theorem store_getVersion {N : Nat} {m : Mem} {b : Bytes} {bk : Bucket} (hb : SMap.find m.buckets b = some bk) (k : Key) (id : Nat)
    (hob : ∀ o, SMap.find bk.objects k = some o → ObjB N o) :
    obsGetVersion m b k id = getVersionP ((ents bk k).map vproj) id := by
  unfold obsGetVersion Mem.getVersion Bucket.objectVersion getVersionP ents
  simp only [hb]
  cases hf : SMap.find bk.objects k with
  | none => rfl
  | some o =>
    obtain ⟨d, h1, _, h3, _⟩ := hob o hf
    rw [List.find?_map, show ((fun x : Proj => x.1 == id) ∘ vproj) = (fun w : Ver => w.id == id) from rfl]
    simp only [h1, Option.toList, List.find?_append, List.find?_cons, List.find?_nil]
    by_cases hd : (d.id == id) = true
    · cases beq_iff_eq.mp hd
      have : o.versions.find? (·.id == d.id) = none :=
        List.find?_eq_none.mpr fun v hv => by rw [archived_id_ne h3 v hv]; exact Bool.false_ne_true
      simp [this, vproj]
    · simp only [hd, Bool.false_eq_true, if_false]
      cases o.versions.find? (·.id == id) <;> simp [vproj]

/-- **reads_agree**: in related states an unqualified read and a read by id answer exactly what the
    specification answers, for every key and id (no panic: the current version is never missing) -/
theorem reads_agree (m : Mem) (b : Bytes) (vb : VBucket) (hm : MInv m) (hr : MRel m b vb) (k : Key) :
    obsGet m b k = Spec.Versions.get vb k ∧ ∀ id, obsGetVersion m b k id = Spec.Versions.getVersion vb k id := by
  obtain ⟨bk, hb, r⟩ := hr
  have hob := objB_of_mInv hm hb k
  exact ⟨by rw [store_get hb k hob, spec_get, r.same k], fun id => by rw [store_getVersion hb k id hob, spec_getVersion, r.same k]⟩

/-- store and specification run side by side; the specification is told the id the store draws -/
def run (md5 : Bytes → Bytes) (b : Bytes) : Mem → VBucket → List HOp → Mem × VBucket
  | m, vb, [] => (m, vb)
  | m, vb, op :: ops => run md5 b (mstep md5 b m op) (sstep (m.nextVer + 1) vb op) ops

/-- no upload and no plain delete while versioning is Suspended (the case of known finding D5) -/
def Allowed (md5 : Bytes → Bytes) (b : Bytes) : Mem → VBucket → List HOp → Prop
  | _, _, [] => True
  | m, vb, op :: ops => (op.isWrite = true → vb.status ≠ .suspended) ∧
      Allowed md5 b (mstep md5 b m op) (sstep (m.nextVer + 1) vb op) ops

def Allowed.dec (md5 : Bytes → Bytes) (b : Bytes) : ∀ m vb ops, Decidable (Allowed md5 b m vb ops)
  | _, _, [] => .isTrue trivial
  | m, vb, op :: ops =>
    have := Allowed.dec md5 b (mstep md5 b m op) (sstep (m.nextVer + 1) vb op) ops
    by unfold Allowed; exact inferInstance
instance (md5 : Bytes → Bytes) (b : Bytes) (m : Mem) (vb : VBucket) (ops : List HOp) :
    Decidable (Allowed md5 b m vb ops) := Allowed.dec md5 b m vb ops

/-- **versions_run_refines**: from related states (in particular a freshly created bucket), after
    EVERY finite sequence of uploads, plain deletes, deletes of a specific version and versioning
    changes without a write while Suspended, the store and the specification are related again —
    hence (reads_agree) every unqualified read and every read by id, of every key, answers exactly
    as the specification of C05 says: the newest remaining version or NoSuchKey, each remaining
    version under its own id with its own bytes, NoSuchVersion for a removed one. -/
theorem versions_run_refines (md5 : Bytes → Bytes) (b : Bytes) (ops : List HOp) :
    ∀ (m : Mem) (vb : VBucket), MInv m → MRel m b vb → Allowed md5 b m vb ops →
      MInv (run md5 b m vb ops).1 ∧ MRel (run md5 b m vb ops).1 b (run md5 b m vb ops).2 := by
  induction ops with
  | nil => intro m vb hm hr _; exact ⟨hm, hr⟩
  | cons op ops ih =>
    intro m vb hm hr ha
    obtain ⟨h1, h2⟩ := step_refines md5 m b vb op hm hr ha.1
    exact ih _ _ h1 h2 ha.2

/-- the corollary in the words of the property -/
theorem versions_reads_exact (md5 : Bytes → Bytes) (b : Bytes) (ops : List HOp) (m : Mem) (vb : VBucket)
    (hm : MInv m) (hr : MRel m b vb) (ha : Allowed md5 b m vb ops) (k : Key) :
    obsGet (run md5 b m vb ops).1 b k = Spec.Versions.get (run md5 b m vb ops).2 k ∧
    ∀ id, obsGetVersion (run md5 b m vb ops).1 b k id = Spec.Versions.getVersion (run md5 b m vb ops).2 k id := by
  obtain ⟨h1, h2⟩ := versions_run_refines md5 b ops m vb hm hr ha
  exact reads_agree _ b _ h1 h2 k

/-- a freshly created bucket is related to the specification's empty, never-versioned bucket -/
theorem fresh_bucket_related (m : Mem) (b : Bytes) (h : SMap.find m.buckets b = none) :
    MRel (m.createBucket b).1 b ⟨.never, []⟩ := by
  unfold Mem.createBucket
  simp only [h, Option.isSome_none, Bool.false_eq_true, if_false]
  refine ⟨⟨.none, []⟩, SMap.find_insert_self _ _ _, ⟨rfl, ?_, ?_, ?_⟩⟩
  · intro k; simp [ents, entriesOf]
  · intro _ k o ho; simp at ho
  · intro _ k e he; simp [entriesOf] at he

/-- every id stored under any key of the bucket is below `m.nextVer + 1`, the value an upload moves the counter to -/
theorem upload_id_fresh (md5 : Bytes → Bytes) (m : Mem) (b : Bytes) (bk : Bucket) (k k' : Key) (md : Meta) (body : Bytes)
    (hm : MInv m) (hb : SMap.find m.buckets b = some bk) :
    (∀ v ∈ ents bk k', v.id < m.nextVer + 1) ∧ (m.put md5 b k md body).1.nextVer = m.nextVer + 1 := by
  constructor
  · intro v hv
    unfold ents at hv
    cases hf : SMap.find bk.objects k' with
    | none => simp [hf] at hv
    | some o =>
      obtain ⟨d, h1, h2, h3, h4⟩ := objB_of_mInv hm hb k' o hf
      simp only [hf, h1, Option.toList, List.mem_append, List.mem_singleton] at hv
      rcases hv with hv | hv
      · exact Nat.lt_succ_of_lt (Nat.lt_of_lt_of_le (h3 v hv) h4)
      · subst hv; exact Nat.lt_succ_of_le h4
  · simp [Mem.put, Mem.putCommit, hb]

/-! Non-vacuity: create, enable, put, put, delete, delete the marker, suspend, delete version 1,
    re-enable, put — an allowed history; the specification and the store agree on every read. -/
def exOps : List HOp :=
  [.setV true, .put [107] [] [1], .put [107] [] [2], .del [107], .delVer [107] 3, .setV false,
   .delVer [107] 1, .setV true, .put [107] [] [4]]
def exM : Mem := (Mem.empty.createBucket [98]).1
example : Allowed id [98] exM ⟨.never, []⟩ exOps := by decide +kernel
example : obsGet (run id [98] exM ⟨.never, []⟩ exOps).1 [98] [107] = .ok [4] ∧
    obsGetVersion (run id [98] exM ⟨.never, []⟩ exOps).1 [98] [107] 2 = .ok (some [2]) ∧
    obsGetVersion (run id [98] exM ⟨.never, []⟩ exOps).1 [98] [107] 1 = .err .NoSuchVersion ∧
    Spec.Versions.get (run id [98] exM ⟨.never, []⟩ exOps).2 [107] = .ok [4] := by decide +kernel

end GFS.Props.C05R
