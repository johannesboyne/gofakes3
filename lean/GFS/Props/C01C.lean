import GFS.Props.C01
import GFS.Props.C10
/-
  C01 for the copy path, at the handler level over the s3mem backend model.
-/
namespace GFS.Props.C01C
open GFS.Model GFS.Props.C01

/-- **copy_roundtrip** (C01): if the copy handler acknowledges a copy of (sb, sk) to (db, dk) then, in
    the state `m1` it ran on (the given one, or with the destination bucket auto-created), the source
    read as some `src` whose digest the answer carries; afterwards the destination reads `src`'s bytes,
    with `md5` of them as digest and every header of the copy request, and every other (bucket, key) —
    the source too, unless it is the destination — reads as in `m1`. -/
theorem copy_roundtrip (md5 : Bytes → Bytes) (cfg : Cfg) (m : Mem) (sb : Bytes) (sk : Key) (db : Bytes) (dk : Key) (sent : Meta)
    (m' : Mem) (h : Bytes) (sv : Option Nat)
    (hc : Front.copyObject md5 cfg m sb sk db dk sent = (m', .copied h sv)) :
    ∃ m1 src, (Front.ensureBucket cfg m db).1 = m1 ∧ m1.get sb sk = .ok src ∧ h = src.hash ∧
      (∃ v, m'.get db dk = .ok v ∧ v.body = src.body ∧ v.hash = md5 src.body ∧ v.marker = false ∧
        ∀ k x, SMap.find sent k = some x → SMap.find v.md k = some x) ∧
      ∀ b' k', (db ≠ b' ∨ dk ≠ k') → m'.get b' k' = m1.get b' k' := by
  have hc := withBucket_inversion hc (fun _ => Out.noConfusion) (fun _ => Out.noConfusion)
  -- the handler's steps in order; a failing one answers with its error
  by_cases hk : dk.length > Front.KeySizeLimit
  · rw [if_pos hk] at hc; cases hc
  rw [if_neg hk] at hc
  split at hc                 -- HEAD of the source
  · cases hc
  · cases hc
  simp only at hc
  split at hc                 -- GET of the source
  · cases hc
  · cases hc
  next src hg =>
  split at hc                 -- the upload
  · next m2 _ hp =>
    cases hc
    refine ⟨_, src, rfl, hg, rfl, ⟨_, get_put hp, rfl, rfl, rfl, fun k x hf => ?_⟩, fun b' k' hne => ?_⟩
    · exact mergedMeta_keeps_new _ _ _ _ k x (mergeMeta_keeps_new _ _ k x hf)
    · exact congrArg (·.1.get b' k') hp ▸ C10.put_frame md5 _ db b' dk k' _ src.body hne
  · cases hc
  · cases hc

/-! Non-vacuity: a copy inside one bucket; destination reads the source's bytes, source unchanged. -/
def exM : Mem := ((Mem.createBucket Mem.empty [98]).1.put id [98] [115] [([67], [1])] [7, 8]).1
example : (Front.copyObject id {} exM [98] [115] [98] [100] [([88], [2])]).2 = .copied [7, 8] (some 1) := by decide +kernel

end GFS.Props.C01C
