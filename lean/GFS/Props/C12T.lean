import GFS.Props.C12F
/-
  C12, second sentence: a stream whose framing breaks off is rejected.  For EVERY proper prefix of
  a well-formed aws-chunked stream (data chunks + terminating zero-size chunk), every
  fragmentation and every sequence of buffer sizes, the decoder (after fix aac976c) never reports a
  clean end of stream: the completeness flag cannot become true before the terminating chunk has
  been read to its end, so `Read` turns the transport's EOF into an incomplete body.
-/
namespace GFS.Props.C12T
open GFS.Model.Chunk GFS.Spec.ChunkSpec GFS.Props.C12 GFS.Props.C12F

/-- data chunks are non-empty, the last chunk is the zero-size one -/
def Strm (rem : List Chunk) : Prop := EndsZero rem ∧ ∀ c ∈ rem.dropLast, c.payload ≠ []

theorem strm_tail {c : Chunk} {r : List Chunk} (h : Strm (c :: r)) : Strm r := by
  refine ⟨endsZero_tail h.1, fun x hx => h.2 x ?_⟩
  cases r with
  | nil => simp at hx
  | cons y ys => exact List.mem_cons_of_mem _ hx

theorem strm_head_nonempty {c : Chunk} {r : List Chunk} (h : Strm (c :: r)) (hr : r ≠ []) : c.payload ≠ [] := by
  apply h.2 c
  cases r with
  | nil => exact absurd rfl hr
  | cons y ys => simp

theorem scan_cut_header {ds : Bytes} (hall : ds.all isHex = true) :
    scanHexSemi ds = .eof ∨ scanHexSemi ds = .err := by
  cases ds with
  | nil => left; rfl
  | cons d ds' =>
    have hd : isHex d = true := by simp only [List.all_cons, Bool.and_eq_true] at hall; exact hall.1
    exact Or.inr ((scanHexSemi_hex ds' hd _).1 (by
      rw [← List.append_nil (d :: ds'), scanDigits_append _ hall]; rfl))

/-- what the header scanner does on an input that is a proper prefix of `size ';' rest` -/
theorem scan_prefix (ds X inp1 t : Bytes) (hne : ds ≠ []) (hall : ds.all isHex = true)
    (hv : hexValue ds ≤ 9223372036854775807) (h : ds ++ 59 :: X = inp1 ++ t) :
    (scanHexSemi inp1 = .eof ∨ scanHexSemi inp1 = .err) ∨
    (∃ X', inp1 = ds ++ 59 :: X' ∧ X = X' ++ t ∧ scanHexSemi inp1 = .ok (hexValue ds) X') := by
  rcases List.append_eq_append_iff.mp h with ⟨a', h1, h2⟩ | ⟨c', h1, h2⟩
  · cases a' with
    | nil =>
      left
      simp only [List.append_nil] at h1
      rw [h1]; exact scan_cut_header hall
    | cons y ys =>
      right
      simp only [List.cons_append, List.cons.injEq] at h2
      obtain ⟨hy, hX⟩ := h2
      subst hy
      refine ⟨ys, h1, hX, ?_⟩
      rw [h1]; exact scan_wellformed_header ds ys hne hall hv
  · left
    have : inp1.all isHex = true := by
      rw [h1, List.all_append, Bool.and_eq_true] at hall
      exact hall.1
    exact scan_cut_header this

/-- the truncation invariant: `inp` is a proper prefix of what a well-formed stream still holds at the
    decoder's position (`p`, `tr`, `rem` as in `C12F.Inv`); the size read last is 0 only in the last chunk -/
def TInv (st : St) (inp : Bytes) : Prop :=
  ∃ p tr rem t, st.remain = p.length ∧ st.complete = false ∧ (if st.notFirst then tr.length = 2 else tr = []) ∧
    (∀ c ∈ rem, c.WF) ∧ Strm rem ∧ (st.notFirst = true → rem ≠ [] → st.last ≠ 0) ∧ t ≠ [] ∧
    p ++ (tr ++ enc rem) = inp ++ t

theorem tinv_complete {st : St} {inp : Bytes} (h : TInv st inp) : st.complete = false := by
  obtain ⟨_, _, _, _, _, hc, _⟩ := h
  exact hc

theorem tinv_header {c : Chunk} {rem' : List Chunk} (hwfc : c.WF) (hwf' : ∀ x ∈ rem', x.WF) (hs : Strm (c :: rem'))
    {inp3 t : Bytes} (ht : t ≠ []) (h : c.payload ++ (c.trailer ++ enc rem') = inp3 ++ t) :
    TInv ⟨(hexValue c.digits : Int), true, (hexValue c.digits : Int), false⟩ inp3 := by
  obtain ⟨-, -, hval, -, -, htrl⟩ := hwfc
  refine ⟨c.payload, c.trailer, rem', t, by simp [hval], rfl, htrl, hwf', strm_tail hs, fun _ hr => ?_, ht, h⟩
  have := List.length_pos_iff.mpr (strm_head_nonempty hs hr)
  simp only [hval]
  omega

theorem tinv_data {st : St} {inp : Bytes} (h : TInv st inp) {n : Nat} (hn : (n : Int) ≤ st.remain)
    (hni : n ≤ inp.length) : TInv { st with remain := st.remain - n } (inp.drop n) := by
  obtain ⟨p, tr, rem, t, hp, hcf, htr, hwf, hs, hlast, ht, heq⟩ := h
  have hnp : n ≤ p.length := Int.ofNat_le.mp (hp ▸ hn)
  refine ⟨p.drop n, tr, rem, t, by rw [List.length_drop, Int.ofNat_sub hnp, ← hp], hcf, htr, hwf, hs, hlast, ht, ?_⟩
  have := congrArg (List.drop n) heq
  rwa [List.drop_append_of_le_length hnp, List.drop_append_of_le_length hni] at this

theorem read_tinv (cfg : Cfg) (fuel : Nat) {st : St} {inp : Bytes} (want : Nat) (acc : Bytes) (h : TInv st inp) :
    (GFS.Model.Chunk.read cfg fuel st inp want acc).st.complete = false ∧
    ((GFS.Model.Chunk.read cfg fuel st inp want acc).err = none →
      TInv (GFS.Model.Chunk.read cfg fuel st inp want acc).st (GFS.Model.Chunk.read cfg fuel st inp want acc).input) := by
  induction fuel generalizing st inp want acc with
  | zero => exact ⟨tinv_complete h, fun _ => h⟩
  | succ fuel ih =>
    have hcf := tinv_complete h
    by_cases hw : want = 0
    · subst hw; rw [read_zero]; exact ⟨hcf, fun _ => h⟩
    by_cases hr : st.remain > 0
    · by_cases hi : inp = []
      · subst hi
        rw [GFS.Model.Chunk.read, if_neg hw, if_pos hr]
        exact ⟨hcf, fun h => by simp at h⟩
      · obtain ⟨n, -, hnr, hni, heq⟩ := read_data cfg fuel acc hw hr hi
        rw [heq]
        split
        · exact ⟨hcf, fun h => by simp at h⟩
        · exact ih _ _ (tinv_data h hnr hni)
    obtain ⟨p, tr, rem, t, hp, -, htr, hwf, hs, hlast, ht, heq⟩ := h
    obtain rfl : p = [] := List.eq_nil_of_length_eq_zero (by omega)
    unfold GFS.Model.Chunk.read
    simp only [hw, hr, if_false]
    -- what is left after the trailer of the previous chunk
    have hat : (if st.notFirst = true then skip 2 inp else some inp) = none ∨
        ∃ inp1, (if st.notFirst = true then skip 2 inp else some inp) = some inp1 ∧ enc rem = inp1 ++ t := by
      by_cases hn : st.notFirst = true
      · simp only [hn, if_true] at htr ⊢
        exact skip_prefix htr heq
      · simp only [hn] at htr ⊢
        exact Or.inr ⟨inp, rfl, by rw [htr] at heq; exact heq⟩
    rcases hat with hnone | ⟨inp1, hat1, henc1⟩
    · rw [hnone]
      exact ⟨by simpa using hcf, fun h => by simp at h⟩
    rw [hat1]
    simp only
    cases rem with
    | nil => exact absurd (List.append_eq_nil_iff.mp henc1.symm).2 ht
    | cons c rem' =>
      have hst1 : (if st.notFirst = true then ({ st with complete := st.last == 0 } : St) else st).complete = false := by
        by_cases hn : st.notFirst = true
        · simpa [hn] using hlast hn (by simp)
        · simpa [hn] using hcf
      have hc := hwf c (List.mem_cons_self ..)
      obtain ⟨hne, hall, hval, hmax, hext, htrl⟩ := hc
      rw [enc_cons] at henc1
      rcases scan_prefix c.digits _ inp1 t hne hall (by omega) henc1 with (he | he) | ⟨X', hX1, hX2, hscan⟩
      · rw [he]; exact ⟨hst1, fun h => by simp at h⟩
      · rw [he]; exact ⟨hst1, fun h => by simp at h⟩
      · rw [hscan]
        simp only
        rcases skip_prefix hext hX2 with hn | ⟨inp3, h3, hX3⟩
        · rw [hn]; exact ⟨rfl, fun h => by simp at h⟩
        · rw [h3]
          exact ih _ _ (tinv_header (hwf c (List.mem_cons_self ..))
            (fun x hx => hwf x (List.mem_cons_of_mem _ hx)) hs ht hX3)

theorem readF_tinv (cfg : Cfg) (fuel : Nat) {st : St} {inp : Bytes} (want : Nat) (acc : Bytes) (h : TInv st inp) :
    (readF cfg fuel st inp want acc).err ≠ some .eof ∧
    ((readF cfg fuel st inp want acc).err = none →
      TInv (readF cfg fuel st inp want acc).st (readF cfg fuel st inp want acc).input) := by
  obtain ⟨h1, h2⟩ := read_tinv cfg fuel want acc h
  unfold readF
  by_cases hc : (GFS.Model.Chunk.read cfg fuel st inp want acc).err = some .eof ∧
      (GFS.Model.Chunk.read cfg fuel st inp want acc).st.complete = false
  · simp only [hc, and_self, if_true]
    exact ⟨by simp, fun h => by simp at h⟩
  · simp only [hc, if_false]
    refine ⟨?_, h2⟩
    intro he
    exact hc ⟨he, h1⟩

theorem consume_ne_eof (cfg : Cfg) (bufs : List Nat) {st : St} {inp : Bytes} (acc : Bytes) (h : TInv st inp) :
    (consume cfg bufs st inp acc).2.1 ≠ some .eof := by
  induction bufs generalizing st inp acc with
  | nil => simp [consume]
  | cons b bs ih =>
    obtain ⟨h1, h2⟩ := readF_tinv cfg (inp.length + 2) b [] h
    simp only [consume]
    cases he : (readF cfg (inp.length + 2) st inp b []).err with
    | some e =>
      intro hx
      rw [he] at h1
      exact h1 (by simpa using hx)
    | none => exact ih _ (h2 he)

/-- **truncated_stream_rejected** (C12, "a stream whose framing is malformed … is rejected"): a
    well-formed aws-chunked stream cut anywhere before its end never decodes to a clean end of
    stream, whatever the fragmentation, the buffer sizes and the transport's end: a consumer that
    reads on until `Read` returns an error gets an incomplete body, a header scan error or the
    transport's own error, never EOF (with too few buffers `bufs` it has no error yet). -/
theorem truncated_stream_rejected (cfg : Cfg) (cs : List Chunk) (final : Chunk) (hwf : StreamWF cs final)
    (inp t : Bytes) (ht : t ≠ []) (hcut : encode cs final = inp ++ t) (bufs : List Nat) :
    (decode cfg bufs inp).2.1 ≠ some .eof := by
  apply consume_ne_eof
  refine ⟨[], [], cs ++ [final], t, rfl, rfl, by simp [St.init], streamWF_all hwf, ⟨streamWF_endsZero hwf, ?_⟩, ?_, ht, ?_⟩
  · intro c hc
    simp only [List.dropLast_concat] at hc
    exact (hwf.1 c hc).2
  · intro hn; simp [St.init] at hn
  · rw [← encode_eq_enc]; exact hcut

/-! Non-vacuity: the stream of C12F's example ("3;"+ext+"abc"+CRLF, "0;"+ext+CRLF) cut one byte
    before its end, read into 2-byte buffers over an EOF transport: an incomplete body. -/
example : StreamWF [⟨[51], exExt, [97, 98, 99], [13, 10]⟩] ⟨[48], exExt, [], [13, 10]⟩ := by decide +kernel
set_option maxRecDepth 100000 in
example : decode ⟨fun _ => false, .eof, false⟩ [2, 2, 2, 2]
    ((encode [⟨[51], exExt, [97, 98, 99], [13, 10]⟩] ⟨[48], exExt, [], [13, 10]⟩).dropLast) = ([97, 98, 99], some .short, false) := by
  decide +kernel
set_option maxRecDepth 100000 in
example : decode ⟨fun _ => false, .eof, false⟩ [2, 2, 2, 2]
    (encode [⟨[51], exExt, [97, 98, 99], [13, 10]⟩] ⟨[48], exExt, [], [13, 10]⟩) = ([97, 98, 99], some .eof, false) := by
  decide +kernel

end GFS.Props.C12T
