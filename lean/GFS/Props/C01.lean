import GFS.Model.Front
import GFS.Lemmas.MemOps
/-
  C01 — stored objects come back byte-for-byte with matching size, ETag and metadata.
  All theorems are parametric in the digest function `md5`.
-/
namespace GFS.Props.C01
open GFS.Model

/-- `MergeMetadata` never changes or drops a header of the new request -/
theorem mergeMeta_keeps_new (new old : Meta) (k v : Bytes) (h : SMap.find new k = some v) :
    SMap.find (mergeMeta new old) k = some v := by
  refine Fold.foldl_inv (P := fun acc => SMap.find acc k = some v) old new (fun acc p _ hacc => ?_) h
  split
  · exact hacc
  · next hn => rw [SMap.find_insert_ne (by rintro rfl; simp [hacc] at hn)]; exact hacc

theorem mergedMeta_keeps_new (m : Mem) (b : Bytes) (k : Key) (new : Meta) (j v : Bytes) (h : SMap.find new j = some v) :
    SMap.find (m.mergedMeta b k new) j = some v := by
  unfold Mem.mergedMeta
  split
  · exact mergeMeta_keeps_new _ _ j v h
  · exact h

theorem withBucket_inversion {cfg : Cfg} {m m' : Mem} {b : Bytes} {f : Mem → Mem × Out} {out : Out}
    (h : Front.withBucket cfg m b f = (m', out)) (he : ∀ c, out ≠ .err c) (hp : ∀ s, out ≠ .panic s) :
    f (Front.ensureBucket cfg m b).1 = (m', out) := by
  unfold Front.withBucket at h
  split at h
  · next heq => rw [heq]; exact h
  · cases h; exact absurd rfl (he _)
  · cases h; exact absurd rfl (hp _)

theorem get_put {md5 : Bytes → Bytes} {m m' : Mem} {b : Bytes} {k : Key} {md : Meta} {body : Bytes} {vid : Option Nat}
    (h : m.put md5 b k md body = (m', .ok vid)) :
    m'.get b k = .ok ⟨m.nextVer + 1, false, body, md5 body, m.mergedMeta b k md⟩ := by
  cases hb : SMap.find m.buckets b with
  | none => simp [Mem.put, Mem.putCommit, hb] at h
  | some bk => exact congrArg (·.1.get b k) h ▸ Mem.get_putCommit_self md5 hb k _ body

/-- what GET must return for an upload of `body` with headers `sent` -/
def GetOk (md5 : Bytes → Bytes) (body : Bytes) (sent : Meta) (out : Out) : Prop :=
  ∃ vid md, out = .object body (md5 body) vid md ∧ ∀ k v, SMap.find sent k = some v → SMap.find md k = some v

/-- **put_get_roundtrip** (C01): in every state and configuration, if the upload handler acknowledges,
    GET and HEAD of that key return exactly the uploaded bytes (hence Content-Length = their count),
    the ETag `md5 body`, and every sent header unchanged. -/
theorem put_get_roundtrip (md5 : Bytes → Bytes) (cfg : Cfg) (m : Mem) (b : Bytes) (k : Key) (sent : Meta) (body : Bytes)
    (m' : Mem) (h vid) (hput : Front.putObject md5 cfg m b k sent body = (m', .stored h vid)) (isHead : Bool) :
    h = md5 body ∧ GetOk md5 body sent (Front.getObject cfg m' b k none isHead).2 := by
  have hput := withBucket_inversion hput (fun _ => Out.noConfusion) (fun _ => Out.noConfusion)
  -- the key-length check passed and the upload was acknowledged: every other branch answers with an error
  split at hput
  · cases hput
  · split at hput
    · next heq =>
      cases hput
      have hg := get_put heq
      -- the bucket exists, so GET runs on `m'` itself
      have hex : m'.bucketExists b = true := by
        obtain ⟨bk, _, hb, _⟩ := Mem.get_eq_ok.mp hg
        simp [Mem.bucketExists, hb]
      refine ⟨rfl, ?_⟩
      simp only [Front.getObject, Front.withBucket, Front.ensureBucket, hex, if_true, hg]
      exact ⟨_, _, rfl, mergedMeta_keeps_new _ b k sent⟩
    · cases hput
    · cases hput

/-! Non-vacuity: an upload into an existing bucket is acknowledged. -/
example : (Front.putObject id {} (Mem.createBucket Mem.empty [98, 107, 116]).1 [98, 107, 116] [107] [] [1, 2, 3]).2
    = .stored [1, 2, 3] none := by decide +kernel

end GFS.Props.C01
