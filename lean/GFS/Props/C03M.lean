import GFS.Model.Prefix
import GFS.Spec.Listing
import GFS.Lemmas.BytesLemmas
/-
  C03, `Prefix.Match` with a delimiter against the specification's `entryOf`.  `Match` works on the
  parts between delimiters (split, compare part by part, join), the specification on the string
  (prefix test, first delimiter after the prefix): `matchD_cases` is `Match` with its final
  comparison resolved, `matchD_eq_specD` the agreement, proved through what splitting does to
  `pfx ++ rest`.
-/
namespace GFS.Props.C03M
open GFS.Model GFS.Bytes GFS.Spec.Listing

/-- the delimiter branch of `Prefix.Match` on already-trimmed strings -/
def matchD (d : UInt8) (key pfx : Bytes) : Option (Bool × Bytes) :=
  let keyParts := splitOn1 d key
  let preParts := splitOn1 d pfx
  if keyParts.length < preParts.length then none
  else if !partsMatch keyParts preParts then none
  else
    let out := join1 d (keyParts.take preParts.length) ++
      (if keyParts.length != preParts.length then [d] else [])
    some (out != key, out)

/-- the specification's answer in the shape `Match` reports it -/
def specD (d : UInt8) (key pfx : Bytes) : Option (Bool × Bytes) :=
  match entryOf pfx (some d) key with
  | none => none
  | some (.content k) => some (false, k)
  | some (.cprefix p) => some (true, p)

theorem entryOf_append (pfx rest : Bytes) (d : UInt8) :
    entryOf pfx (some d) (pfx ++ rest) =
      some ((indexOf d rest).elim (.content (pfx ++ rest)) fun i => .cprefix (pfx ++ rest.take (i + 1))) := by
  have hp : hasPrefix (pfx ++ rest) pfx = true := hasPrefix_iff.mpr (List.prefix_append ..)
  simp only [entryOf, hp, List.drop_left]
  cases indexOf d rest <;> rfl

theorem cprefix_iff {d : UInt8} {pfx key x : Bytes} :
    entryOf pfx (some d) key = some (.cprefix x) ↔
      ∃ seg, x = pfx ++ seg ++ [d] ∧ d ∉ seg ∧ hasPrefix key x = true := by
  constructor
  · intro h
    by_cases hp : hasPrefix key pfx = true
    · obtain ⟨rest, rfl⟩ := hasPrefix_iff.mp hp
      rw [entryOf_append] at h
      cases hi : indexOf d rest with
      | none => rw [hi] at h; cases h
      | some i =>
        rw [hi] at h
        cases h
        refine ⟨rest.take i, by rw [take_succ_of_indexOf hi, List.append_assoc], notMem_take_of_indexOf hi, ?_⟩
        exact hasPrefix_iff.mpr ⟨rest.drop (i + 1), by rw [List.append_assoc, List.take_append_drop]⟩
    · simp [entryOf, hp] at h
  · rintro ⟨seg, rfl, hseg, hpre⟩
    obtain ⟨tl, rfl⟩ := hasPrefix_iff.mp hpre
    have hi := indexOf_append_of_notMem (rest := tl) hseg
    rw [List.append_assoc, List.append_assoc, entryOf_append, List.singleton_append, hi, Option.elim,
      take_succ_of_indexOf hi, List.take_left, List.append_assoc]

theorem match_trimmed (hasP : Bool) {d : UInt8} {pfx key : Bytes} (hp : pfx.head? ≠ some d) (hk : key.head? ≠ some d) :
    (⟨hasP, pfx, true, d⟩ : Prefix).match_ key = matchD d key pfx := by
  unfold Prefix.match_ matchD
  simp only [Bool.not_true, Bool.and_false, Bool.false_eq_true, if_false, trimLeft1_id hp, trimLeft1_id hk]

theorem matchD_cases {d : UInt8} {key : Bytes} (pfx : Bytes) (hend : key.getLast? ≠ some d) :
    matchD d key pfx =
      (if (splitOn1 d key).length < (splitOn1 d pfx).length then none
       else if !partsMatch (splitOn1 d key) (splitOn1 d pfx) then none
       else if (splitOn1 d key).length = (splitOn1 d pfx).length then some (false, key)
       else some (true, join1 d ((splitOn1 d key).take (splitOn1 d pfx).length) ++ [d])) := by
  unfold matchD
  by_cases h : (splitOn1 d key).length = (splitOn1 d pfx).length
  · have hout : join1 d ((splitOn1 d key).take (splitOn1 d pfx).length) = key := by
      rw [← h, List.take_length, join_split]
    simp only [h, hout, bne_self_eq_false, Bool.false_eq_true, if_false, List.append_nil, if_true]
  · have hne : ((splitOn1 d key).length != (splitOn1 d pfx).length) = true := by simpa using h
    -- the matched part ends with the delimiter, the key does not
    have hout : (join1 d ((splitOn1 d key).take (splitOn1 d pfx).length) ++ [d] != key) = true := by
      rw [bne_iff_ne]; intro e; apply hend; rw [← e]; simp
    simp only [h, hne, hout, if_true, if_false]

theorem join1_take_cons (d : UInt8) (p : Bytes) (ps : List Bytes) (n : Nat) (hn : 0 < n) :
    join1 d ((p :: ps).take n) = p ++ (match ps.take (n - 1) with | [] => [] | q :: qs => d :: join1 d (q :: qs)) := by
  cases n with
  | zero => omega
  | succ m =>
    simp only [List.take_succ_cons, Nat.add_sub_cancel]
    cases h : ps.take m with
    | nil => simp [join1]
    | cons q qs => simp [join1]

theorem partsMatch_iff (part : Bytes) (A f : List Bytes) :
    partsMatch f (A ++ [part]) = true ↔ ∃ x tl, f = A ++ x :: tl ∧ hasPrefix x part = true := by
  induction A generalizing f with
  | nil => cases f <;> simp [partsMatch]
  | cons a A' ih =>
    obtain ⟨q, ps, hA⟩ := List.exists_cons_of_ne_nil (List.append_ne_nil_of_right_ne_nil A' (List.cons_ne_nil part []))
    cases f with
    | nil => simp [partsMatch]
    | cons k ks =>
      rw [List.cons_append, hA, partsMatch, ← hA, Bool.and_eq_true, beq_iff_eq, ih ks]
      constructor
      · rintro ⟨rfl, x, tl, rfl, hx⟩; exact ⟨x, tl, rfl, hx⟩
      · rintro ⟨x, tl, h, hx⟩
        obtain ⟨rfl, rfl⟩ := List.cons.inj h
        exact ⟨rfl, x, tl, rfl, hx⟩

/-- the idea: the parts of `pfx ++ rest` are those of `pfx` with the last one glued to the first
    part of `rest`, followed by the other parts of `rest` -/
theorem matchD_eq_specD {d : UInt8} {key : Bytes} (pfx : Bytes) (hend : key.getLast? ≠ some d) :
    matchD d key pfx = specD d key pfx := by
  rw [matchD_cases pfx hend]
  obtain ⟨A, s, hP⟩ := exists_splitOn1_concat d pfx
  have hpfx : join1 d (A ++ [s]) = pfx := by rw [← hP, join_split]
  rw [hP]
  by_cases hp : hasPrefix key pfx = true
  · obtain ⟨rest, rfl⟩ := hasPrefix_iff.mp hp
    obtain ⟨h, t, hR⟩ := List.exists_cons_of_ne_nil (splitOn1_ne_nil d rest)
    rw [splitOn1_append hP hR, (partsMatch_iff s A _).mpr ⟨s ++ h, t, rfl, hasPrefix_iff.mpr (List.prefix_append ..)⟩]
    have htake : (A ++ (s ++ h) :: t).take (A ++ [s]).length = A ++ [s ++ h] := by
      simp [List.take_length_add_append]
    have hjoin : join1 d (A ++ [s ++ h]) = pfx ++ h := by rw [join1_append_last, hpfx]; rfl
    have hlen : (A ++ (s ++ h) :: t).length = (A ++ [s]).length + t.length := by simp +arith
    simp only [specD, entryOf_append, htake, hjoin, hlen, Bool.not_true, Bool.false_eq_true, if_false]
    rw [if_neg (Nat.not_lt.mpr (Nat.le_add_right ..))]
    rw [splitOn1_indexOf] at hR
    cases hi : indexOf d rest with
    | none =>
      rw [hi] at hR
      obtain ⟨rfl, rfl⟩ := List.cons.inj hR
      simp
    | some i =>
      rw [hi] at hR
      obtain ⟨rfl, rfl⟩ := List.cons.inj hR
      have := List.length_pos_iff.mpr (splitOn1_ne_nil d (rest.drop (i + 1)))
      rw [if_neg (by omega)]
      simp only [Option.elim, take_succ_of_indexOf hi, List.append_assoc]
  · -- matching parts would make the prefix a prefix of the key
    have hpm : partsMatch (splitOn1 d key) (A ++ [s]) = false := by
      refine Bool.eq_false_iff.mpr fun hpm => hp ?_
      obtain ⟨x, tl, hK, hx⟩ := (partsMatch_iff s A _).mp hpm
      obtain ⟨y, rfl⟩ := hasPrefix_iff.mp hx
      exact hasPrefix_iff.mpr ⟨join1 d (y :: tl), by rw [← join_split d key, hK, join1_append_last, hpfx]⟩
    have hp' : hasPrefix key pfx = false := by simpa using hp
    simp only [specD, entryOf, hp', hpm, Bool.not_false, if_true, ite_self]

/-- **match_eq_entryOf** (C03, delimiter case): on the statement's domain — prefix and key not
    starting, the key not ending, with the delimiter — `Prefix.Match` reports what the
    specification says: no match unless the key starts with the prefix, the key as Contents when no
    delimiter follows the prefix, otherwise the CommonPrefix `prefix + segment up to and including
    the first delimiter`. -/
theorem match_eq_entryOf (hasP : Bool) (d : UInt8) (pfx key : Bytes)
    (hp : pfx.head? ≠ some d) (hk : key.head? ≠ some d) (hend : key.getLast? ≠ some d) :
    (⟨hasP, pfx, true, d⟩ : Prefix).match_ key = specD d key pfx := by
  rw [match_trimmed hasP hp hk]
  exact matchD_eq_specD pfx hend

/-! Non-vacuity and the boundary of the domain: a key ending in the delimiter is reported as
    Contents by the code where the specification groups it (outside the quantifier of C03). -/
example : (⟨true, [97], true, 47⟩ : Prefix).match_ [97, 98, 47, 99] = some (true, [97, 98, 47]) := by decide +kernel
example : specD 47 [97, 98, 47, 99] [97] = some (true, [97, 98, 47]) := by decide +kernel
example : (⟨true, [97], true, 47⟩ : Prefix).match_ [97, 47] ≠ specD 47 [97, 47] [97] := by decide +kernel

end GFS.Props.C03M
