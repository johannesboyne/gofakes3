import GFS.Props.C05R
import GFS.Props.C03
import GFS.Lemmas.BytesLemmas
/-
  C03 over whole histories of a versioned bucket: the keys a listing shows are exactly the keys
  whose unqualified read succeeds — deleted keys, delete-marked keys and keys whose every version
  was removed never appear, and a key whose newest remaining version is an object always does.
  Composes Props/C03 (the undelimited listing is `shown`, the live matching keys) with Props/C05R
  (the store against the specification machine after every allowed history).
-/
namespace GFS.Props.C03R
open GFS.Model GFS.Props.C03 GFS.Props.C05R GFS.Props.C13I
open GFS.Spec.Versions (VBucket)

theorem mem_shown (pfx : Bytes) (objs : List (Key × Obj)) (c : Content) :
    c ∈ shown pfx objs ↔
      ∃ k o d, (k, o) ∈ objs ∧ o.data = some d ∧ pfx <+: k ∧ d.marker = false ∧ c = ⟨k, d.body.length, d.hash⟩ := by
  unfold shown
  simp only [List.mem_filterMap]
  constructor
  · rintro ⟨⟨k, o⟩, hin, hc⟩
    cases hd : o.data with
    | none => simp [hd] at hc
    | some d =>
      simp only [hd] at hc
      split at hc
      · next h =>
        simp only [Bool.and_eq_true, Bytes.hasPrefix_iff, Bool.not_eq_true'] at h
        exact ⟨k, o, d, hin, hd, h.1, h.2, (Option.some.inj hc).symm⟩
      · cases hc
  · rintro ⟨k, o, d, hin, hd, hp, hm, rfl⟩
    exact ⟨(k, o), hin, by simp [hd, Bytes.hasPrefix_iff.mpr hp, hm]⟩

theorem get_ok_iff {m : Mem} {b : Bytes} {bk : Bucket} (hb : SMap.find m.buckets b = some bk) (k : Key) (d : Ver) :
    m.get b k = .ok d ↔ ∃ o, SMap.find bk.objects k = some o ∧ o.data = some d ∧ d.marker = false := by
  rw [Mem.get_eq_ok]
  exact ⟨fun ⟨bk', o, h, ho⟩ => ⟨o, by rwa [Option.some.inj (hb.symm.trans h)]⟩, fun ⟨o, ho⟩ => ⟨bk, o, hb, ho⟩⟩

theorem obsGet_ok (m : Mem) (b : Bytes) (k : Key) (body : Bytes) :
    obsGet m b k = .ok body ↔ ∃ d, m.get b k = .ok d ∧ d.body = body := by
  unfold obsGet
  cases m.get b k <;> simp

theorem mem_shown_get {m : Mem} {b : Bytes} {bk : Bucket} (hb : SMap.find m.buckets b = some bk) (hs : SMap.Sorted bk.objects)
    (c : Content) : c ∈ shown [] bk.objects ↔ ∃ d, m.get b c.key = .ok d ∧ c = ⟨c.key, d.body.length, d.hash⟩ := by
  rw [mem_shown]
  constructor
  · rintro ⟨k, o, d, hin, hd, _, hmk, rfl⟩
    exact ⟨d, (get_ok_iff hb k d).mpr ⟨o, SMap.find_of_mem_sorted hs hin, hd, hmk⟩, rfl⟩
  · rintro ⟨d, hg, hc⟩
    obtain ⟨o, hf, hd, hmk⟩ := (get_ok_iff hb _ d).mp hg
    exact ⟨c.key, o, d, SMap.find_some_mem hf, hd, List.nil_prefix, hmk, hc⟩

/-- **listing_is_live_keys**: in states related to the specification (every state an allowed
    history reaches, `C05R.versions_run_refines`) a key occurs in `shown [] bk.objects` — what the
    listing of the bucket without prefix, delimiter, marker and limit returns
    (`C03.listBucket_plain`) — exactly when its unqualified read succeeds, and then with the size
    of the body that read returns. -/
theorem listing_is_live_keys (m : Mem) (b : Bytes) (vb : VBucket) (hm : MInv m) (hr : MRel m b vb) :
    ∃ bk, SMap.find m.buckets b = some bk ∧ ∀ k : Key,
      ((∃ c ∈ shown [] bk.objects, c.key = k) ↔ ∃ body, Spec.Versions.get vb k = .ok body) ∧
      (∀ c ∈ shown [] bk.objects, c.key = k → ∀ body, Spec.Versions.get vb k = .ok body → c.size = body.length) := by
  have hagree := fun k => (reads_agree m b vb hm hr k).1
  obtain ⟨bk, hb, _⟩ := hr
  have hs := (hm (b, bk) (SMap.find_some_mem hb)).1
  refine ⟨bk, hb, fun k => ?_⟩
  simp only [← hagree, obsGet_ok, mem_shown_get hb hs]
  refine ⟨⟨?_, ?_⟩, ?_⟩
  · rintro ⟨c, ⟨d, hg, _⟩, rfl⟩
    exact ⟨_, d, hg, rfl⟩
  · rintro ⟨_, d, hg, _⟩
    exact ⟨⟨k, d.body.length, d.hash⟩, ⟨d, hg, rfl⟩, rfl⟩
  · rintro c ⟨d, hg, hc⟩ rfl _ ⟨d', hg', rfl⟩
    cases hg.symm.trans hg'
    rw [hc]

/-- the same after every allowed history -/
theorem listing_after_history (md5 : Bytes → Bytes) (b : Bytes) (ops : List HOp) (m : Mem) (vb : VBucket)
    (hm : MInv m) (hr : MRel m b vb) (ha : Allowed md5 b m vb ops) :
    ∃ bk, SMap.find (run md5 b m vb ops).1.buckets b = some bk ∧ ∀ k : Key,
      ((∃ c ∈ shown [] bk.objects, c.key = k) ↔ ∃ body, Spec.Versions.get (run md5 b m vb ops).2 k = .ok body) := by
  obtain ⟨h1, h2⟩ := versions_run_refines md5 b ops m vb hm hr ha
  obtain ⟨bk, hb, h⟩ := listing_is_live_keys _ b _ h1 h2
  exact ⟨bk, hb, fun k => (h k).1⟩

/-! Non-vacuity: after C05R's example history key "k" is live (its newest version is the object 4). -/
example : (shown [] (((run id [98] C05R.exM ⟨.never, []⟩ C05R.exOps).1.buckets.find [98]).map (·.objects)).get!) =
    [⟨[107], 1, [4]⟩] := by decide +kernel

end GFS.Props.C03R
