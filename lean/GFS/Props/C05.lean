import GFS.Lemmas.MemOps
/-
  C05 — versioning never loses history and always serves the newest remaining version.
  Theorems about the bucket-level state machine of s3mem (bucket.go).  What a read by id finds in
  an object is `Obj.byId`; `Bucket.byId_put` says what an upload into an Enabled bucket does to it,
  and the theorems about uploads and plain deletes (here and in Props/C05H) are instances.
-/
namespace GFS.Props.C05
open GFS.Model

theorem find_insertVer (vs : List Ver) (v : Ver) (id : Nat) :
    (insertVer vs v).find? (·.id == id) = if v.id = id then some v else vs.find? (·.id == id) := by
  fun_induction insertVer vs v <;> grind

end GFS.Props.C05

namespace GFS.Model
open GFS.SMap GFS.Props.C05

def Obj.byId : Obj → Nat → Option Ver
  | ⟨some d, vs⟩, id => if d.id = id then some d else vs.find? (·.id == id)
  | ⟨none, vs⟩, id => vs.find? (·.id == id)

theorem Obj.byId_spec {o : Obj} {id : Nat} {v : Ver} (h : o.byId id = some v) :
    v.id = id ∧ (o.data = some v ∨ v ∈ o.versions) := by
  obtain ⟨_ | d, vs⟩ := o <;> grind [Obj.byId]

theorem Obj.byId_push (o : Obj) (item : Ver) (id : Nat) :
    (o.push true item).byId id = if item.id = id then some item else o.byId id := by
  obtain ⟨_ | d, vs⟩ := o
  · rfl
  · simp only [Obj.push, if_true, byId, find_insertVer]

namespace Bucket

theorem objectVersion_ok (bk : Bucket) (k : Key) (id : Nat) (v : Ver) :
    bk.objectVersion k id = .ok v ↔ (bk.old k).byId id = some v := by
  unfold objectVersion old
  cases find bk.objects k with
  | none => simp [Obj.byId]
  | some o =>
    obtain ⟨_ | d, vs⟩ := o
    · simp only [Option.getD_some, Obj.byId]; cases vs.find? _ <;> simp
    · simp only [Option.getD_some, Obj.byId, beq_iff_eq]
      split
      · simp
      · cases vs.find? _ <;> simp

theorem byId_put {bk : Bucket} (hv : bk.versioning = .enabled) (k0 k : Key) (item : Ver) (id : Nat) :
    ((bk.put k0 item).old k).byId id = if k0 = k ∧ item.id = id then some item else (bk.old k).byId id := by
  rw [put_eq, old_storeObj, hv]
  by_cases hk : k0 = k
  · subst hk; simp only [if_true, true_and]; exact Obj.byId_push ..
  · simp only [hk, if_false, false_and]

end Bucket
end GFS.Model

namespace GFS.Props.C05
open GFS.Model

/-- **version_retained_on_put**: while versioning is Enabled, an upload over a current version `old`
    keeps `old`, and every version archived earlier, retrievable by id unchanged (the new id is
    assumed fresh, which the generator guarantees). -/
theorem version_retained_on_put (bk : Bucket) (k : Key) (o : Obj) (old item : Ver)
    (hv : bk.versioning = .enabled) (ho : SMap.find bk.objects k = some o) (hd : o.data = some old)
    (hfresh : item.id ≠ old.id) :
    (bk.put k item).objectVersion k old.id = .ok old ∧
    (bk.put k item).objectVersion k item.id = .ok item ∧
    ∀ id w, id ≠ item.id → id ≠ old.id → o.versions.find? (·.id == id) = some w →
      (bk.put k item).objectVersion k id = .ok w := by
  have hold := Bucket.old_of_find ho
  obtain ⟨_, vs⟩ := o
  subst hd
  simp only [Bucket.objectVersion_ok, Bucket.byId_put hv, hold]
  exact ⟨by simp [hfresh, Obj.byId], by simp, fun id w h1 h2 hw => by simp [Ne.symm h1, Ne.symm h2, hw, Obj.byId]⟩

/-- **plain_delete_adds_marker**: while Enabled, a plain delete of an existing key makes the
    current version a delete marker with the fresh id (so the key reads NoSuchKey) and the
    version that was current remains retrievable by id, unchanged. -/
theorem plain_delete_adds_marker (bk : Bucket) (k : Key) (o : Obj) (old : Ver) (fresh : Nat)
    (hv : bk.versioning = .enabled) (ho : SMap.find bk.objects k = some o) (hd : o.data = some old)
    (hfresh : fresh ≠ old.id) :
    let r := bk.rm k fresh
    r.2.1 = true ∧ r.2.2.1 = some fresh ∧
    (∃ o', SMap.find r.1.objects k = some o' ∧ ∃ d, o'.data = some d ∧ d.marker = true ∧ d.id = fresh) ∧
    r.1.objectVersion k old.id = .ok old := by
  intro r
  have hr : r = (bk.put k ⟨fresh, true, [], [], []⟩, true, some fresh, true) := by
    simp only [r, Bucket.rm_eq, ho, hv, beq_self_eq_true, if_true]
  rw [hr]
  exact ⟨rfl, rfl, ⟨_, SMap.find_insert_self .., _, rfl, rfl, rfl⟩, (version_retained_on_put bk k o old _ hv ho hd hfresh).1⟩

/-- **delete_current_promotes** (the repaired D4): deleting the current version by id while
    older versions remain makes the newest remaining one current — the object never sits in
    the bucket without a current version. -/
theorem delete_current_promotes (bk : Bucket) (k : Key) (o : Obj) (cur last : Ver)
    (ho : SMap.find bk.objects k = some o) (hd : o.data = some cur)
    (hl : o.versions.getLast? = some last) :
    ∃ o', SMap.find (bk.rmVersion k cur.id).1.objects k = some o' ∧ o'.data = some last ∧
      o'.versions = o.versions.dropLast := by
  obtain ⟨_, vs⟩ := o
  cases hd
  obtain ⟨ws, rfl⟩ := List.getLast?_eq_some_iff.mp hl
  rw [Bucket.rmVersion_eq, ho]
  simp only [Obj.rmVer_fst, Option.any_some, beq_iff_eq, if_true, Obj.dropCurrent_concat, Bucket.find_storeObj]
  exact ⟨_, rfl, rfl, List.dropLast_concat.symm⟩

/-- suspending versioning does not touch any object -/
theorem suspend_preserves_objects (m : Mem) (b : Bytes) (bk : Bucket) (h : SMap.find m.buckets b = some bk) (e : Bool) :
    ∃ bk', SMap.find (m.setVersioning b e).1.buckets b = some bk' ∧ bk'.objects = bk.objects := by
  simp [Mem.setVersioning, h, SMap.find_insert_self]

/-! Non-vacuity: an Enabled bucket with a current version and one archived version. -/
example : ∃ bk : Bucket, bk.versioning = .enabled ∧
    SMap.find bk.objects [107] = some ⟨some ⟨2, false, [2], [], []⟩, [⟨1, false, [1], [], []⟩]⟩ :=
  ⟨⟨.enabled, [([107], ⟨some ⟨2, false, [2], [], []⟩, [⟨1, false, [1], [], []⟩]⟩)]⟩, rfl, by rfl⟩

end GFS.Props.C05
