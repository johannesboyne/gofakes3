import GFS.Generated.BackendFacts
import GFS.Model.Bolt
/-
  The literals Model/Bolt and Model/FsTree share with the backends' source, re-read from /repo on
  every run (Generated/BackendFacts): if the source changes them, these theorems stop checking.
-/
namespace GFS.Props.BackendGen
open GFS.Model

/-- the model's bookkeeping bucket is the one s3bolt names -/
theorem bolt_metaName_tied : Bolt.metaName = GFS.Generated.boltMetaName := rfl

/-- the model's record key is the one `bucketMetaKey` builds -/
theorem bolt_metaKey_tied (name : Bytes) : Bolt.metaKey name = GFS.Generated.boltMetaKeyPrefix ++ name := rfl

/-- **the bookkeeping bucket's name is no legal bucket name** (C10/C17): whatever name the source
    gives it, `ValidateBucketName` refuses that name, so no user bucket can ever collide with it -/
theorem bolt_meta_not_a_bucket_name : validateBucketName GFS.Generated.boltMetaName = false := by decide

/-- every object-level method of s3bolt opens its bolt bucket through `s3Bucket` (fix 0b7eacc),
    as `Model/Bolt` assumes -/
theorem bolt_s3Bucket_everywhere : GFS.Generated.boltDirectBucketUses = 0 := rfl

/-- s3afero `validKey` still has the body `Model/FsTree.keyPath` mirrors -/
theorem afero_validKey_tied : GFS.Generated.aferoValidKeyAsModelled = true := rfl

end GFS.Props.BackendGen
