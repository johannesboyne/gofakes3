import GFS.Props.C01B
/-
  C10 on the other backends' models: an upload or delete addressed to one (bucket, key) changes
  what no other (bucket, key) returns — on s3bolt (see also C01B.bolt_put_frame) and on the
  file-system backend, where keys are paths and the directories are shared.
-/
namespace GFS.Props.C10B
open GFS.Model GFS.Model.Fs GFS.Model.FsB GFS.Props.FsR

theorem getObject_insert_frame (md5 : Bytes → Bytes) {s : FsS} {b k b' k' : Bytes} {bk bk' : Bkt}
    (hb : SMap.find s.buckets b = some bk) (hne : ¬ (b' = b ∧ k' = k))
    (h : k ≠ k' → getKey bk'.tree k' = getKey bk.tree k' ∧ SMap.find bk'.mds k' = SMap.find bk.mds k') :
    FsB.getObject md5 ⟨SMap.insert s.buckets b bk'⟩ b' k' = FsB.getObject md5 s b' k' := by
  unfold FsB.getObject
  rw [GFS.SMap.find_insert]
  by_cases e : b = b'
  · have hk := h fun e' => hne ⟨e.symm, e'.symm⟩
    rw [if_pos e, ← e, hb]
    simp only [hk.1, hk.2]
  · rw [if_neg e]

/-- an acknowledged upload on the file-system backend leaves every other (bucket, key) as it was:
    bytes, digest and metadata -/
theorem fs_put_frame (md5 : Bytes → Bytes) (s s' : FsS) (b k b' k' : Bytes) (sent : Meta) (body : Bytes)
    (hput : FsB.putObject md5 s b k sent body = (s', .ok ())) (hne : ¬ (b' = b ∧ k' = k)) :
    FsB.getObject md5 s' b' k' = FsB.getObject md5 s b' k' := by
  obtain ⟨p, bk, t', hk, hb, hp, rfl⟩ := putObject_ok md5 s s' b k sent body hput
  exact getObject_insert_frame md5 hb hne fun hkk => ⟨by rw [getKey_put hk hp k', if_neg hkk], SMap.find_insert_ne hkk⟩

/-- a delete on the file-system backend — accepted or refused — leaves every other (bucket, key)
    as it was, including the keys that shared directories with the deleted one -/
theorem fs_delete_frame (md5 : Bytes → Bytes) (s : FsS) (b k b' k' : Bytes) (hne : ¬ (b' = b ∧ k' = k)) :
    FsB.getObject md5 (FsB.deleteObject s b k).1 b' k' = FsB.getObject md5 s b' k' := by
  unfold FsB.deleteObject
  cases hb : SMap.find s.buckets b with
  | none => rfl
  | some bk =>
    simp only
    cases hd : deleteIn bk k with
    | none => rfl
    | some bk' =>
      exact getObject_insert_frame md5 hb hne (deleteIn_frame hd)

/-- a delete on s3bolt leaves every other (bucket, key) as it was -/
theorem bolt_delete_frame (db : Bolt.DB) (b k b' k' : Bytes) (hne : ¬ (b' = b ∧ k' = k)) :
    Bolt.getObject (Bolt.deleteObject db b k).1 b' k' = Bolt.getObject db b' k' := by
  rw [BoltR.deleteObject_eq]
  rcases BoltR.s3Bucket_cases db b with ⟨h1, _⟩ | ⟨kv, hb, hf, h1, _⟩
  · rw [h1]
  · rw [h1]
    simp only
    rw [BoltR.boltDelete_eq hf]
    exact C01B.getObject_insert_frame hb h1 hne SMap.find_erase_ne

end GFS.Props.C10B
