import GFS.Props.C06R
/-
  C14, first clause, over whole histories: the uploads the bookkeeping holds are exactly the
  uploads that have been initiated and neither completed nor aborted.

  `liveStep` is the specification: an initiate adds (bucket, key, new id); an abort of a live
  upload and an ACKNOWLEDGED complete (`isOk`, in Lemmas/Uploader) remove it; nothing else changes
  the set.
-/
namespace GFS.Props.C14L
open GFS.Model GFS.Model.Upl GFS.Props.C06F GFS.Props.C06R
open GFS.Props.C14I (Op step)

abbrev UId := Bytes × Key × Nat

/-- the specification of the set of live uploads -/
def liveStep (md5 : Bytes → Bytes) (s : Srv) (live : List UId) : Op → List UId
  | .initiate b k _ => live ++ [(b, k, s.upl.nextId + 1)]
  | .abort b k id => live.filter (fun x => !(decide (x = (b, k, id))))
  | .complete b k id listed =>
    if isOk (complete md5 s.upl s.mem b k id listed).2.2 then live.filter (fun x => !(decide (x = (b, k, id)))) else live
  | _ => live

def LiveRel (s : Srv) (live : List UId) : Prop :=
  ∀ b k id, (pending s.upl b k id).isSome = true ↔ (b, k, id) ∈ live

/-- an upload id names at most one key -/
theorem pending_other_key (u : Upl) (b : Bytes) (k k0 : Key) (id : Nat) (m : MPU) (hp : pending u b k id = some m)
    (hk : k0 ≠ k) : pending u b k0 id = none :=
  pending_key_unique hp hk

theorem get_never_panics (u : Upl) (b : Bytes) (k : Key) (id : Nat) (x : PanicSite) : u.get b k id ≠ .panic x :=
  Res.isPanic_eq_false.mp (u.get_noPanic b k id) x

/-- a complete that is not acknowledged leaves the bookkeeping as it was -/
theorem complete_not_ok (md5 : Bytes → Bytes) (u : Upl) (mem : Mem) (b : Bytes) (k : Key) (id : Nat) (listed : List (Int × Bytes))
    (h : isOk (complete md5 u mem b k id listed).2.2 = false) : (complete md5 u mem b k id listed).1 = u := by
  rcases complete_cases md5 u mem b k id listed with ⟨bu, m, ps, mem', vid, _, _, _, e⟩ | ⟨_, e⟩
  · rw [e] at h; cases h
  · rw [e]

theorem liveRel_remove {s s' : Srv} {live : List UId} {b : Bytes} {k : Key} {id : Nat} (hr : LiveRel s live)
    (h : ∀ b2 k2 id2, pending s'.upl b2 k2 id2 = if b2 = b ∧ k2 = k ∧ id2 = id then none else pending s.upl b2 k2 id2) :
    LiveRel s' (live.filter fun x => !(decide (x = (b, k, id)))) := by
  intro b0 k0 i0
  rw [h, List.mem_filter, ← hr b0 k0 i0]
  split <;> simp [*]

/-- **live_step**: one request keeps "pending = live" -/
theorem live_step (md5 : Bytes → Bytes) (s : Srv) (live : List UId) (op : Op) (hi : SInv s) (hr : LiveRel s live) :
    LiveRel (step md5 s op) (liveStep md5 s live op) := by
  cases op with
  | store m' => exact hr
  | part b k id n d body =>
    intro b0 k0 i0
    simp only [step, liveStep]
    rw [← hr b0 k0 i0, pending_uploadPart hi.keyed]
    split
    · rw [Option.isSome_map]
    · rfl
  | initiate b k md =>
    intro b0 k0 i0
    simp only [step, liveStep]
    rw [pending_create, List.mem_append, List.mem_singleton, ← hr b0 k0 i0]
    by_cases hnew : i0 = s.upl.nextId + 1
    · subst hnew
      have hnone : ∀ b', pending s.upl b' k0 (s.upl.nextId + 1) = none := fun b' =>
        Option.eq_none_iff_forall_ne_some.mpr fun m hp => Nat.not_succ_le_self _ (pending_le hi.bound hp)
      by_cases hb : b0 = b <;> by_cases hk : k0 = k <;> simp [hnone, hb, hk]
    · simp [hnew]
  | abort b k id => exact liveRel_remove hr (pending_abort hi.keyed b k id)
  | complete b k id listed =>
    simp only [liveStep]
    split
    · next c => exact liveRel_remove hr fun b2 k2 id2 => by simp only [step, pending_complete hi.keyed, c, and_true]
    · next c =>
      intro b0 k0 i0
      simp only [step, complete_not_ok md5 s.upl s.mem b k id listed (Bool.eq_false_iff.mpr c)]
      exact hr b0 k0 i0

/-- the live set along a history -/
def liveRun (md5 : Bytes → Bytes) : Srv → List UId → List Op → Srv × List UId
  | s, live, [] => (s, live)
  | s, live, op :: ops => liveRun md5 (step md5 s op) (liveStep md5 s live op) ops

theorem liveRun_fst (md5 : Bytes → Bytes) (ops : List Op) : ∀ s live, (liveRun md5 s live ops).1 = ops.foldl (step md5) s := by
  induction ops with
  | nil => intro s live; rfl
  | cons op ops ih => intro s live; simp only [liveRun, List.foldl_cons]; exact ih _ _

/-- **live_exact**: after EVERY finite sequence of initiate / upload-part / abort / complete
    requests and changes of the store, started with an empty bookkeeping, an upload is pending
    under (bucket, key, id) exactly when it was initiated under that bucket and key with that id
    and has been neither aborted nor completed with an acknowledged complete. -/
theorem live_exact (md5 : Bytes → Bytes) (ops : List Op) : ∀ (s : Srv) (live : List UId), SInv s → LiveRel s live →
    SInv (liveRun md5 s live ops).1 ∧ LiveRel (liveRun md5 s live ops).1 (liveRun md5 s live ops).2 := by
  induction ops with
  | nil => intro s live hi hr; exact ⟨hi, hr⟩
  | cons op ops ih =>
    intro s live hi hr
    exact ih _ _ (step_sinv md5 s op hi) (live_step md5 s live op hi hr)

theorem live_empty (mem : Mem) : LiveRel ⟨mem, Upl.empty⟩ [] := by
  intro b k id
  simp [pending, get_empty]

/-! Non-vacuity: three uploads, one aborted, one completed, a complete that is refused. -/
def exOps : List Op :=
  [.initiate [98] [107] [], .initiate [98] [107] [], .initiate [98] [108] [], .part [98] [107] 1 1 1 [7],
   .abort [98] [107] 2, .complete [98] [108] 3 [(1, [])], .complete [98] [107] 1 [(1, Bytes.hexLower [7])]]
example : (liveRun id ⟨(Mem.createBucket Mem.empty [98]).1, Upl.empty⟩ [] exOps).2 = [([98], [108], 3)] := by decide +kernel

end GFS.Props.C14L
