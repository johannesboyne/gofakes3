import GFS.Props.C13L
import GFS.Lemmas.Order
import GFS.Lemmas.Walk
/-
  C13, paging: following the NextKeyMarker / NextVersionIdMarker a truncated page returns visits
  every version and delete marker of the unpaginated listing exactly once, for every page size.
  A page without markers returns a front part of the flat listing `F`, and its markers name an
  object list `left` holding the rest (`page`); a request carrying them runs the marker-free loop
  on `left` (`resume`: here the store's invariant is used); the walk is then `Walk.exact`.
-/
namespace GFS.Props.C13W
open GFS.Model GFS.Props.C13 GFS.Props.C13L

def F (p : Prefix) (masked : Bool) (objs : List (Key × Obj)) : List VerEntry := objs.flatMap (entriesOfKey p masked)

theorem F_cons (p : Prefix) (masked : Bool) (q : Key × Obj) (rest : List (Key × Obj)) :
    F p masked (q :: rest) = entriesOfKey p masked q ++ F p masked rest :=
  List.flatMap_cons

/-- `o` without its first `n` archived versions: what a page that stops inside a key leaves of its object -/
def trimN (o : Obj) (n : Nat) : Obj := { data := o.data, versions := o.versions.drop n }

theorem allVersions_trimN (o : Obj) (tk : List (Ver × Bool)) (x : Ver × Bool) (t : List (Ver × Bool))
    (h : o.allVersions = tk ++ x :: t) : (trimN o tk.length).allVersions = x :: t := by
  have hlen := congrArg List.length (allVersions_fst o)
  simp only [h, List.length_map, List.length_append, List.length_cons] at hlen
  have := o.data.length_toList_le
  unfold Obj.allVersions at h
  unfold trimN Obj.allVersions
  simp only [List.map_drop]
  rw [← List.drop_append_of_le_length, h]
  · simp
  · rw [List.length_map]; omega

/-- what the `done:` loop (`nextMatching`) finds in `l`: keys that list nothing, then the end, or the key `m` names -/
def SkipsTo (p : Prefix) (masked : Bool) (l : List (Key × Obj)) (m : Option (Key × Nat)) : Prop :=
  ∃ pre, F p masked pre = [] ∧ ((m = none ∧ l = pre) ∨
    ∃ nk o x t, m = some (nk, x.1.id) ∧ o.allVersions.head? = some x ∧ l = pre ++ (nk, o) :: t ∧ (p.match_ nk).isSome)

theorem SkipsTo.later {p : Prefix} {masked : Bool} {q : Key × Obj} {l : List (Key × Obj)} {m : Option (Key × Nat)}
    (h0 : entriesOfKey p masked q = []) (h : SkipsTo p masked l m) : SkipsTo p masked (q :: l) m := by
  obtain ⟨pre, e0, e⟩ := h
  refine ⟨q :: pre, by rw [F_cons, h0, e0]; rfl, ?_⟩
  rcases e with ⟨e1, e2⟩ | ⟨nk, o, x, t, e1, e2, e3, e4⟩
  · exact Or.inl ⟨e1, by rw [e2]⟩
  · exact Or.inr ⟨nk, o, x, t, e1, e2, by rw [e3]; rfl, e4⟩

theorem nextMatching_spec (p : Prefix) (masked : Bool) (l : List (Key × Obj)) :
    SkipsTo p masked l (nextMatching p l) := by
  induction l with
  | nil => exact ⟨[], rfl, Or.inl ⟨rfl, rfl⟩⟩
  | cons q rest ih =>
    obtain ⟨k, o⟩ := q
    unfold nextMatching
    cases hm : p.match_ k with
    | none => exact ih.later (by simp [entriesOfKey, hm])
    | some r =>
      cases hh : o.allVersions.head? with
      | none =>
        refine ih.later ?_
        simp only [entriesOfKey, List.head?_eq_none_iff.mp hh, List.map_nil]
        split <;> rfl
      | some x => exact ⟨[], rfl, Or.inr ⟨k, o, x, rest, rfl, hh, rfl, by simp [hm]⟩⟩

/-- the object invariant the store keeps (`C13I`) -/
def ObjOK (o : Obj) : Prop :=
  ∃ d, o.data = some d ∧ o.versions.Pairwise (fun a b => a.id < b.id) ∧ ∀ v ∈ o.versions, v.id < d.id

def Good (O : List (Key × Obj)) : Prop :=
  SMap.Sorted O ∧ (∀ q ∈ O, ObjOK q.2) ∧ ∀ q ∈ O, q.1 ≠ []

/-- `S` is what remains of `O` from some key on; its first object may have lost leading versions -/
def Suf (O S : List (Key × Obj)) : Prop :=
  match S with
  | [] => True
  | (k, o') :: rest => ∃ pre o0 dr, O = pre ++ (k, o0) :: rest ∧ o'.data = o0.data ∧ o0.versions = dr ++ o'.versions

theorem suf_of_plain (O pre S : List (Key × Obj)) (h : O = pre ++ S) : Suf O S := by
  cases S with
  | nil => trivial
  | cons q rest => obtain ⟨k, o⟩ := q; exact ⟨pre, o, [], h, rfl, by simp⟩

theorem suf_later (O : List (Key × Obj)) (q : Key × Obj) (pre S : List (Key × Obj)) (h : Suf O (q :: (pre ++ S))) : Suf O S := by
  obtain ⟨pre0, o0, dr, h1, _, _⟩ := h
  exact suf_of_plain O (pre0 ++ (q.1, o0) :: pre) S (by simp [h1])

/-- the marker pair `(km, vm)` names the remaining work `S` -/
def Names (O S : List (Key × Obj)) (km : Bytes) (vm : Option Nat) : Prop :=
  (km = [] ∧ vm = none ∧ S = O) ∨
  ∃ k' o' rest' x, S = (k', o') :: rest' ∧ km = k' ∧ o'.allVersions.head? = some x ∧ vm = some x.1.id

theorem page (p : Prefix) (masked : Bool) (L : Int) (hL : 0 < L) (O S : List (Key × Obj)) :
    ∀ (cnt : Int) (acc : VersionList), cnt < L → acc.truncated = false → Suf O S →
    ∃ r taken left, verLoop p masked L [] none S cnt acc = .ok r ∧ r.entries = acc.entries ++ taken ∧
      cnt + taken.length ≤ L ∧ F p masked S = taken ++ F p masked left ∧ Suf O left ∧
      ((r.truncated = false ∧ left = []) ∨
       (r.truncated = true ∧ Names O left r.nextKey r.nextVer ∧ (p.match_ r.nextKey).isSome ∧ taken ≠ [])) := by
  induction S with
  | nil =>
    intro cnt acc hc ht _
    exact ⟨acc, [], [], rfl, (List.append_nil _).symm, by simpa using Int.le_of_lt hc, rfl, trivial, Or.inl ⟨ht, rfl⟩⟩
  | cons q rest ih =>
    intro cnt acc hc ht hS
    obtain ⟨k, o⟩ := q
    have hSr : Suf O rest := suf_later O (k, o) [] rest hS
    rw [F_cons]
    unfold verLoop entriesOfKey
    cases hm : p.match_ k with
    | none => exact ih cnt acc hc ht hSr
    | some r0 =>
      obtain ⟨cp, mp⟩ := r0
      cases cp with
      | true =>
        obtain ⟨r, taken, left, h1, h2, h3⟩ := ih cnt (if acc.prefixes.contains mp then acc else { acc with prefixes := acc.prefixes ++ [mp] })
          hc (by cases acc.prefixes.contains mp <;> exact ht) hSr
        exact ⟨r, taken, left, h1, by rw [h2]; cases acc.prefixes.contains mp <;> rfl, h3⟩
      | false =>
        dsimp only
        obtain ⟨tk, rs, hv, ⟨a1, rfl, a3⟩ | ⟨_, a1, a2, a3⟩⟩ := inner_split k masked L o.allVersions cnt acc.entries (Or.inr hc)
        · -- the key is listed whole and the loop goes on
          rw [a3, hv]
          obtain ⟨r, taken, left, e0, e1, e2, e3, e4, e5⟩ := ih (cnt + tk.length)
            { acc with entries := acc.entries ++ tk.map (entryOf k masked) } (by omega) ht hSr
          exact ⟨r, tk.map (entryOf k masked) ++ taken, left, e0, by simp [e1],
            by rw [List.length_append, List.length_map]; omega, by simp [e3], e4,
            e5.imp id fun ⟨g1, g2, g3, g4⟩ => ⟨g1, g2, g3, by simp [g4]⟩⟩
        · have htk : tk.map (entryOf k masked) ≠ [] := by simpa using a2
          rw [a3, hv]
          cases rs with
          | cons x t =>
            -- the page ends inside the key
            have htrim := allVersions_trimN o tk x t hv
            obtain ⟨pre, o0, dr, e1, e2, e3⟩ := hS
            exact ⟨_, _, (k, trimN o tk.length) :: rest, rfl, rfl, by simp [a1],
              by rw [F_cons]; simp [entriesOfKey, hm, htrim],
              ⟨pre, o0, dr ++ o.versions.take tk.length, e1, e2, by simp [trimN, e3]⟩,
              Or.inr ⟨rfl, Or.inr ⟨k, _, rest, x, rfl, rfl, by rw [htrim]; rfl, rfl⟩, by simp [hm], htk⟩⟩
          | nil =>
            -- the page ends with the key's last version: the `done:` loop looks for a later key
            rw [List.append_nil]
            obtain ⟨pre, e0, ⟨e1, e2⟩ | ⟨nk, o', x, t, e1, e2, e3, e4⟩⟩ := nextMatching_spec p masked rest
            · rw [e1]
              exact ⟨_, _, [], rfl, rfl, by simp [a1], by rw [e2, e0]; rfl, trivial, Or.inl ⟨ht, rfl⟩⟩
            · rw [e1]
              exact ⟨_, _, (nk, o') :: t, rfl, rfl, by simp [a1],
                by rw [e3]; unfold F at e0 ⊢; rw [List.flatMap_append, e0]; rfl,
                suf_later O (k, o) pre _ (e3 ▸ hS), Or.inr ⟨rfl, Or.inr ⟨nk, o', t, x, rfl, rfl, e2, rfl⟩, e4, htk⟩⟩

theorem verLoop_foreign_marker (p : Prefix) (masked : Bool) (L : Int) (km : Bytes) (vm : Option Nat) (objs : List (Key × Obj))
    (h : ∀ q ∈ objs, q.1 ≠ km) :
    ∀ (cnt : Int) (acc : VersionList), verLoop p masked L km vm objs cnt acc = verLoop p masked L [] none objs cnt acc := by
  induction objs with
  | nil => exact fun _ _ => rfl
  | cons q rest ih =>
    intro cnt acc
    obtain ⟨k, o⟩ := q
    have hk : (k == km) = false := beq_false_of_ne (h (k, o) List.mem_cons_self)
    have ih' := ih (fun q hq => h q (List.mem_cons_of_mem _ hq))
    unfold verLoop
    cases p.match_ k with
    | none => exact ih' cnt acc
    | some r =>
      obtain ⟨cp, mp⟩ := r
      cases cp with
      | true => exact ih' _ _
      | false =>
        cases vm with
        | none => simp only [ih']
        | some v => simp only [hk, Bool.false_eq_true, if_false, ih']

theorem versionsFrom_suffix (o0 o' : Obj) (dr : List Ver) (x : Ver × Bool) (hok : ObjOK o0)
    (hd : o'.data = o0.data) (hv : o0.versions = dr ++ o'.versions) (hx : o'.allVersions.head? = some x) :
    o0.versionsFrom x.1.id = some o'.allVersions := by
  obtain ⟨d, hd0, hpw, hlt⟩ := hok
  unfold Obj.versionsFrom
  cases hvs : o'.versions with
  | nil =>
    -- only the current version is left, and every archived id is below it
    have hxd : x = (d, true) := by
      unfold Obj.allVersions at hx
      simp [hvs, hd, hd0] at hx
      exact hx.symm
    subst hxd
    have : o0.versions.dropWhile (fun v => decide (v.id < d.id)) = [] := by
      simpa using List.dropWhile_append_of_pos (l₂ := ([] : List Ver)) (fun a ha => by simpa using hlt a ha)
    simp only [this, hd0]
    simp [Obj.allVersions, hvs, hd, hd0]
  | cons v vs =>
    -- the archived ids dropped so far are below `v`'s
    have hxv : x = (v, false) := by
      unfold Obj.allVersions at hx
      simp [hvs] at hx
      exact hx.symm
    subst hxv
    have hdr : ∀ a ∈ dr, (decide (a.id < v.id)) = true := by
      intro a ha
      rw [hv, hvs] at hpw
      simpa using (List.pairwise_append.mp hpw).2.2 a ha v (by simp)
    rw [hv, hvs, List.dropWhile_append_of_pos hdr, List.dropWhile_cons_of_neg (by simp)]
    simp [Obj.allVersions, hvs, hd]

theorem filter_from_key (pre rest : List (Key × Obj)) (k : Key) (o0 : Obj)
    (hs : SMap.Sorted (pre ++ (k, o0) :: rest)) :
    (pre ++ (k, o0) :: rest).filter (fun q => !Bytes.lt q.1 k) = (k, o0) :: rest ∧ ∀ q ∈ rest, q.1 ≠ k :=
  ⟨SMap.filter_from_key hs, SMap.sorted_tail_ne hs⟩

/-- **resume**: a request carrying the markers a page returned continues exactly where the page stopped -/
theorem resume (p : Prefix) (masked : Bool) (L : Int) (O : List (Key × Obj)) (hG : Good O)
    (k' : Key) (o' : Obj) (rest' : List (Key × Obj)) (hS : Suf O ((k', o') :: rest'))
    (x : Ver × Bool) (hx : o'.allVersions.head? = some x) (acc : VersionList) :
    verLoop p masked L k' (some x.1.id) (O.filter (fun q => !Bytes.lt q.1 k')) 0 acc =
      verLoop p masked L [] none ((k', o') :: rest') 0 acc := by
  obtain ⟨pre, o0, dr, e1, e2, e3⟩ := hS
  obtain ⟨hsorted, hok, _⟩ := hG
  subst e1
  obtain ⟨hf, hne⟩ := filter_from_key pre rest' k' o0 hsorted
  rw [hf]
  have hforeign := verLoop_foreign_marker p masked L k' (some x.1.id) rest' hne
  have hvf := versionsFrom_suffix o0 o' dr x (hok (k', o0) (by simp)) e2 e3 hx
  unfold verLoop
  cases p.match_ k' with
  | none => exact hforeign _ _
  | some r =>
    obtain ⟨cp, mp⟩ := r
    cases cp with
    | true => exact hforeign _ _
    | false => simp only [beq_self_eq_true, if_true, hvf, hforeign]

/-- the pages of a walk along the returned markers -/
def walk (m : Mem) (b : Bytes) (p : Prefix) (L : Int) : Nat → Bytes → Option Nat → List VersionList
  | 0, _, _ => []
  | n + 1, km, vm =>
    match m.listVersions b p km vm L with
    | .ok r => if r.truncated then r :: walk m b p L n r.nextKey r.nextVer else [r]
    | _ => []

theorem walk_from (m : Mem) (b : Bytes) (bk : Bucket) (hb : SMap.find m.buckets b = some bk) (p : Prefix)
    (L : Int) (hL : 1 ≤ L) (hG : Good bk.objects) :
    ∀ (fuel : Nat) (S : List (Key × Obj)) (km : Bytes) (vm : Option Nat),
      Suf bk.objects S → Names bk.objects S km vm → (km ≠ [] → (p.match_ km).isSome) →
      (F p (bk.versioning == .none) S).length < fuel →
      (walk m b p L fuel km vm).flatMap (·.entries) = F p (bk.versioning == .none) S ∧
      (walk m b p L fuel km vm).getLast?.map (·.truncated) = some false ∧
      ∀ r ∈ walk m b p L fuel km vm, (r.entries.length : Int) ≤ L := by
  intro fuel S km vm hS hN hM hlen
  have := Walk.exact (fun n (s : Bytes × Option Nat) => walk m b p L n s.1 s.2) (·.truncated) (fun r => (r.nextKey, r.nextVer))
    (·.entries) (fun S s => Suf bk.objects S ∧ Names bk.objects S s.1 s.2 ∧ (s.1 ≠ [] → (p.match_ s.1).isSome))
    (F p (bk.versioning == .none)) (fun S => (F p (bk.versioning == .none) S).length) (fun r => (r.entries.length : Int) ≤ L)
    ?_ fuel S (km, vm) ⟨hS, hN, hM⟩ hlen
  · exact ⟨this.1, this.2.1, this.2.2.1⟩
  · intro S s ⟨hS, hN, hM⟩
    -- the request is the marker-free loop over `S`
    have hreq : m.listVersions b p s.1 s.2 L =
        verLoop p (bk.versioning == .none) L [] none S 0 ⟨[], [], false, [], none⟩ := by
      unfold Mem.listVersions
      simp only [hb]
      rcases hN with ⟨h1, h2, h3⟩ | ⟨k', o', rest', x, h1, h2, h3, h4⟩
      · subst h3; simp only [h1, List.isEmpty_nil, if_true]
      · subst h1
        rw [h2] at hM
        have hk : k' ≠ [] := by
          obtain ⟨pre, o0, dr, e1, _, _⟩ := hS
          exact hG.2.2 (k', o0) (by rw [e1]; simp)
        have hke : k'.isEmpty = false := List.isEmpty_eq_false_iff.mpr hk
        obtain ⟨mm, hmm⟩ := Option.isSome_iff_exists.mp (hM hk)
        simp only [h2, h4, hke, Bool.false_eq_true, if_false, hmm]
        exact resume p _ L bk.objects hG k' o' rest' hS x h3 _
    obtain ⟨r, taken, left, hr, h1, h2, h3, h4, h5⟩ :=
      page p (bk.versioning == .none) L (by omega) bk.objects S 0 ⟨[], [], false, [], none⟩ (by omega) rfl hS
    simp only [List.nil_append] at h1
    refine ⟨r, fun n => by simp only [walk, hreq, hr], by rw [h1]; omega, ?_⟩
    rw [h1]
    rcases h5 with ⟨htr, rfl⟩ | ⟨htr, hN', hM', hne⟩
    · exact Or.inl ⟨htr, by simpa [F] using h3⟩
    · have : taken.length ≠ 0 := by simpa using hne
      exact Or.inr ⟨htr, left, ⟨h4, hN', fun _ => hM'⟩, by simp only [h3, List.length_append]; omega, h3⟩

/-- **versions_walk_exact**: for every page size `L ≥ 1`, the pages obtained by starting without
    markers and passing back the NextKeyMarker / NextVersionIdMarker of each truncated page carry,
    concatenated, exactly the entries of the unpaginated listing (`listVersions_exact`), end with a
    page that is not truncated, and never exceed `L` entries. -/
theorem versions_walk_exact (m : Mem) (b : Bytes) (bk : Bucket) (hb : SMap.find m.buckets b = some bk) (p : Prefix)
    (L : Int) (hL : 1 ≤ L) (hG : Good bk.objects) :
    let pages := walk m b p L ((bk.objects.flatMap (entriesOfKey p (bk.versioning == .none))).length + 1) [] none
    pages.flatMap (·.entries) = bk.objects.flatMap (entriesOfKey p (bk.versioning == .none)) ∧
    pages.getLast?.map (·.truncated) = some false ∧
    ∀ r ∈ pages, (r.entries.length : Int) ≤ L :=
  walk_from m b bk hb p L hL hG _ bk.objects [] none (suf_of_plain _ [] _ rfl) (Or.inl ⟨rfl, rfl, rfl⟩) (fun h => absurd rfl h)
    (by unfold F; omega)

/-! Non-vacuity: two keys, the first with an archived version, a delete marker as its current
    version; pages of one entry. -/
def exBucket : Bucket := ⟨.enabled, [([97], ⟨some ⟨3, true, [], [], []⟩, [⟨1, false, [1], [9], []⟩]⟩),
                                      ([98], ⟨some ⟨2, false, [7], [8], []⟩, []⟩)]⟩
def exMem : Mem := ⟨[([120], exBucket)], 3⟩

example : Good exBucket.objects := by
  refine ⟨?_, ?_, ?_⟩
  · unfold SMap.Sorted exBucket; decide
  · intro q hq
    simp only [exBucket, List.mem_cons, List.mem_nil_iff, or_false] at hq
    rcases hq with rfl | rfl <;> exact ⟨_, rfl, by simp, by simp⟩
  · intro q hq
    simp only [exBucket, List.mem_cons, List.mem_nil_iff, or_false] at hq
    rcases hq with rfl | rfl <;> simp

example : (walk exMem [120] ⟨false, [], false, 0⟩ 1 4 [] none).map (fun r => (r.entries.map (·.vid), r.truncated, r.nextKey, r.nextVer)) =
    [([some 1], true, [97], some 3), ([some 3], true, [98], some 2), ([some 2], false, [], none)] := by decide +kernel

end GFS.Props.C13W
