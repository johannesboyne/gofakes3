import GFS.Props.C03
import GFS.Props.C13S
import GFS.Model.Front
/-
  C04, last sentence: "Backends that do not paginate answer with the complete listing and
  IsTruncated=false unless configured to refuse."  At the handler level (gofakes3.go listBucket
  over a backend that does not implement paging: s3bolt, s3afero): whatever marker, token or
  max-keys the request carries, the answer is the backend's COMPLETE listing — exactly the live
  matching keys, not truncated — or, with the unimplemented-page option, NotImplemented.
-/
namespace GFS.Props.C04N
open GFS.Model GFS.Props.C03 GFS.Props.C13I

/-- a request that asks for a page: a marker / token / start-after, or a max-keys -/
def asksPage (hasMarker : Bool) (marker : Bytes) (maxKeys : Int) : Bool := !(!hasMarker && marker.isEmpty && maxKeys == 0)

/-- **nonpaginating_refuses_when_configured**: with the unimplemented-page option a request for a
    page is refused with NotImplemented and changes nothing -/
theorem nonpaginating_refuses_when_configured (cfg : Cfg) (m : Mem) (b : Bytes) (p : Prefix) (hasMarker : Bool) (marker : Bytes)
    (maxKeys : Int) (v2 : Bool) (hex : m.bucketExists b = true) (hnp : cfg.paginates = false) (hf : cfg.failOnPage = true)
    (hpg : asksPage hasMarker marker maxKeys = true) :
    Front.listBucket cfg m b p hasMarker marker maxKeys v2 = (m, .err .NotImplemented) := by
  have hpe : (!hasMarker && marker.isEmpty && maxKeys == 0) = false := by
    cases h : (!hasMarker && marker.isEmpty && maxKeys == 0)
    · rfl
    · simp [asksPage, h] at hpg
  simp [Front.listBucket, Front.withBucket, Front.ensureBucket, hex, hnp, hf, hpe, Out.ofRes]

/-- **nonpaginating_answers_complete_listing**: over a backend that does not paginate, and without
    the unimplemented-page option, a listing request is answered with the backend's listing for NO
    marker and NO limit, whatever marker and max-keys it carried -/
theorem nonpaginating_answers_complete_listing (cfg : Cfg) (m : Mem) (b : Bytes) (p : Prefix) (hasMarker : Bool) (marker : Bytes)
    (maxKeys : Int) (v2 : Bool) (hex : m.bucketExists b = true) (hnp : cfg.paginates = false) (hf : cfg.failOnPage = false) :
    Front.listBucket cfg m b p hasMarker marker maxKeys v2 =
      (m, Out.ofRes (m.listBucket b p [] 0) fun l => .listing l v2 p.hasDelim) := by
  by_cases hpe : (!hasMarker && marker.isEmpty && maxKeys == 0) = true
  · simp only [Bool.and_eq_true, beq_iff_eq, List.isEmpty_iff] at hpe
    obtain ⟨⟨_, rfl⟩, rfl⟩ := hpe
    simp [Front.listBucket, Front.withBucket, Front.ensureBucket, hex, hf]
  · simp [Front.listBucket, Front.withBucket, Front.ensureBucket, hex, hnp, hf, hpe]

/-- **complete_listing_exact**: in a store that satisfies the invariant, the listing of a bucket
    without delimiter, marker and limit (what `nonpaginating_answers_complete_listing` answers
    with) is exactly the live keys that start with the prefix, not truncated -/
theorem complete_listing_exact (m : Mem) (b : Bytes) (bk : Bucket) (hb : SMap.find m.buckets b = some bk) (hm : MInv m) (pfx : Bytes) :
    m.listBucket b (plain pfx) [] 0 = .ok ⟨shown pfx bk.objects, [], false, []⟩ := by
  refine listBucket_plain hb (fun q hq => ?_) pfx
  obtain ⟨d, h1, _⟩ := (hm (b, bk) (SMap.find_some_mem hb)).2 q hq
  rw [h1]; exact Option.some_ne_none d

end GFS.Props.C04N
