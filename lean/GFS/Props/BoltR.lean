import GFS.Model.Bolt
import GFS.Spec.S3
import GFS.Lemmas.SMapExt
import GFS.Lemmas.Fold
import GFS.Props.SpecS
/-
  s3bolt refines the reference model of S3 (C02: "all bundled backends agree with the model").
  The abstraction forgets the bookkeeping bucket `_meta`, digests and metadata.
-/
namespace GFS.Props.BoltR
open GFS.Model GFS.Model.Bolt GFS.SMap GFS.SMapL GFS.Spec.S3

def objBody : BVal → Bytes
  | .obj o => o.body
  | .bucketRec => []

/-- the abstraction map: every top-level bolt bucket except `_meta` is an S3 bucket -/
def abs (db : DB) : Store := mapV (mapV objBody) (SMap.erase db metaName)

/-- representation invariant: bbolt keeps buckets and keys in strictly ascending byte order -/
def Inv (db : DB) : Prop := Sorted db ∧ ∀ q ∈ db, Sorted q.2

theorem inv_empty : Inv DB.empty := ⟨sorted_nil, by intro q hq; cases hq⟩

theorem abs_sorted {db : DB} (h : Sorted db) : Sorted (abs db) := sorted_mapV (sorted_erase h)

theorem abs_find (db : DB) (b : Bytes) :
    SMap.find (abs db) b = if b = metaName then none else (SMap.find db b).map (mapV objBody) := by
  rw [abs, find_mapV, find_erase]
  by_cases e : b = metaName
  · rw [if_pos e.symm, if_pos e]; rfl
  · rw [if_neg (fun x => e x.symm), if_neg e]

theorem abs_insert_ne {db : DB} {b : Bytes} {kv : SMap BVal} (hs : Sorted db) (hb : b ≠ metaName) :
    abs (SMap.insert db b kv) = SMap.insert (abs db) b (mapV objBody kv) :=
  sorted_ext _ _ (abs_sorted (sorted_insert hs)) (sorted_insert (abs_sorted hs)) fun j => by
    rw [abs_find, find_insert, find_insert, abs_find]
    by_cases e : b = j
    · rw [if_pos e, if_pos e, if_neg (e ▸ hb)]; rfl
    · rw [if_neg e, if_neg e]

theorem abs_insert_meta {db : DB} {kv : SMap BVal} (hs : Sorted db) :
    abs (SMap.insert db metaName kv) = abs db :=
  sorted_ext _ _ (abs_sorted (sorted_insert hs)) (abs_sorted hs) fun j => by
    rw [abs_find, abs_find, find_insert]
    by_cases e : j = metaName
    · rw [if_pos e, if_pos e]
    · rw [if_neg e, if_neg e, if_neg (fun x => e x.symm)]

theorem abs_erase (db : DB) (b : Bytes) : abs (SMap.erase db b) = SMap.erase (abs db) b := by
  rw [abs, abs, ← mapV_erase]
  simp only [SMap.erase, List.filter_filter, Bool.and_comm]

theorem ensureTop_sorted (db : DB) (hs : Sorted db) : Sorted (ensureTop db metaName) := by
  unfold ensureTop; split
  · exact hs
  · exact sorted_insert hs

theorem abs_ensureTop {db : DB} (hs : Sorted db) : abs (ensureTop db metaName) = abs db := by
  unfold ensureTop; split
  · rfl
  · exact abs_insert_meta hs

theorem ensureTop_find_ne (db : DB) {b : Bytes} (hb : b ≠ metaName) :
    SMap.find (ensureTop db metaName) b = SMap.find db b := by
  unfold ensureTop; split
  · rfl
  · exact find_insert_ne (fun x => hb x.symm)

def metaKV (db : DB) : SMap BVal := (SMap.find db metaName).getD []

theorem ensureTop_find_meta (db : DB) : SMap.find (ensureTop db metaName) metaName = some (metaKV db) := by
  unfold ensureTop metaKV
  cases h : SMap.find db metaName with
  | some kv => exact h
  | none => exact find_insert_self _ _ _

theorem inv_insert {db : DB} {b : Bytes} {kv : SMap BVal} (h : Inv db) (hk : Sorted kv) : Inv (SMap.insert db b kv) :=
  ⟨sorted_insert h.1, forall_mem_insert h.2 b hk⟩

theorem inv_erase {db : DB} {b : Bytes} (h : Inv db) : Inv (SMap.erase db b) :=
  ⟨sorted_erase h.1, fun q hq => h.2 q (mem_erase hq)⟩

theorem inv_find {db : DB} {b : Bytes} {kv : SMap BVal} (h : Inv db) (hf : SMap.find db b = some kv) : Sorted kv :=
  h.2 (b, kv) (find_some_mem hf)

theorem inv_ensureTop {db : DB} (h : Inv db) : Inv (ensureTop db metaName) := by
  unfold ensureTop; split
  · exact h
  · exact inv_insert h sorted_nil

theorem valid_ne_meta {b : Bytes} (h : validateBucketName b = true) : b ≠ metaName ∧ b ≠ [] := by
  constructor <;> (intro e; subst e; revert h; decide)

theorem metaKey_ne_nil (b : Bytes) : (metaKey b).isEmpty = false := by simp [metaKey]

theorem key_fits {k : Bytes} (hk : k.isEmpty = false) (hl : k.length ≤ maxKeySize) :
    (k.isEmpty || decide (k.length > maxKeySize)) = false := by
  rw [hk, Bool.false_or, decide_eq_false (Nat.not_lt.mpr hl)]

/-- what the reference model sees of an answer -/
def ansOf : Res HOut → Ans
  | .ok .unit => .ok
  | .ok (.object o) => .object o.body
  | .ok (.names l) => .buckets l
  | .ok (.keys _) => .ok
  | .ok (.hash _) => .ok
  | .err c => .err c
  | .panic _ => .err .Internal

/-- the requests the reference model speaks about: bucket names to create pass the
    create-bucket rule (C17); keys to write are non-empty (a request without a key is a
    bucket request) and within the key-length limit (C08) -/
def OpOk : Op → Prop
  | .createBucket b => validateBucketName b = true
  | .put _ k _ => k ≠ [] ∧ k.length ≤ Front.KeySizeLimit
  | .copy _ _ _ dk => dk ≠ [] ∧ dk.length ≤ Front.KeySizeLimit
  | _ => True

theorem bucketExists_abs (db : DB) (b : Bytes) : bucketExists db b = (SMap.find (abs db) b).isSome := by
  unfold bucketExists
  rw [abs_find]
  by_cases e : b = metaName <;> simp [e]

theorem exists_ne_meta {db : DB} {b : Bytes} (h : bucketExists db b = true) : b ≠ metaName := by
  intro e
  simp [bucketExists, e] at h

theorem boltDelete_abs {db : DB} {b : Bytes} (k : Bytes) (hi : Inv db) (hb : b ≠ metaName) :
    Inv (boltDelete db b k) ∧ abs (boltDelete db b k) = delKey (abs db) b k := by
  unfold boltDelete delKey
  rw [abs_find]
  simp only [hb, if_false]
  cases hf : SMap.find db b with
  | none => exact ⟨hi, rfl⟩
  | some kv =>
    refine ⟨inv_insert hi (sorted_erase (inv_find hi hf)), ?_⟩
    simp only [Option.map_some]
    rw [abs_insert_ne hi.1 hb, mapV_erase]

theorem boltDelete_find (db : DB) (b k j : Bytes) (hj : (SMap.find db j).isSome) : (SMap.find (boltDelete db b k) j).isSome := by
  unfold boltDelete
  cases hf : SMap.find db b with
  | none => exact hj
  | some kv =>
    by_cases e : b = j
    · subst e; simp [find_insert_self]
    · rw [find_insert_ne e]; exact hj

theorem foldl_delete_abs (ks : List Bytes) {b : Bytes} (hb : b ≠ metaName) {db : DB} (hi : Inv db) :
    Inv (ks.foldl (fun acc k => boltDelete acc b k) db) ∧
    abs (ks.foldl (fun acc k => boltDelete acc b k) db) = ks.foldl (fun acc k => delKey acc b k) (abs db) :=
  Fold.foldl_rel (R := fun db st => Inv db ∧ abs db = st) ks db (abs db)
    (fun db st k _ h => by obtain ⟨hi, rfl⟩ := h; exact boltDelete_abs k hi hb) ⟨hi, rfl⟩

theorem valid_len {b : Bytes} (h : validateBucketName b = true) : b.length ≤ 63 := by
  unfold validateBucketName at h
  by_cases hl : b.length < 3 ∨ b.length > 63
  · simp [hl] at h
  · omega

/- `update` keeps what `fn` did only when `fn` succeeds, and every method fails before it writes:
   so each method is an equation in `find` / `insert` / `erase` (the `*_eq` lemmas). -/

theorem s3Bucket_cases (db : DB) (b : Bytes) :
    (s3Bucket db b = none ∧ SMap.find (abs db) b = none) ∨
    (∃ kv, b ≠ metaName ∧ SMap.find db b = some kv ∧ s3Bucket db b = some kv ∧
      SMap.find (abs db) b = some (mapV objBody kv)) := by
  rw [abs_find]
  unfold s3Bucket
  by_cases e : b = metaName
  · left; simp [e]
  · simp only [beq_false_of_ne e, Bool.false_eq_true, if_false, e]
    cases hf : SMap.find db b with
    | none => exact Or.inl ⟨rfl, rfl⟩
    | some kv => exact Or.inr ⟨kv, e, rfl, rfl, rfl⟩

theorem s3Bucket_insert {db : DB} {b : Bytes} {kv : SMap BVal} (hb : b ≠ metaName) (b' : Bytes) :
    s3Bucket (SMap.insert db b kv) b' = if b = b' then some kv else s3Bucket db b' := by
  unfold s3Bucket
  rw [find_insert]
  by_cases e : b = b'
  · simp only [beq_false_of_ne (e ▸ hb), Bool.false_eq_true, if_false]
  · simp only [if_neg e]

theorem boltDelete_eq {db : DB} {b : Bytes} {kv : SMap BVal} (hf : SMap.find db b = some kv) (k : Bytes) :
    boltDelete db b k = SMap.insert db b (SMap.erase kv k) := by
  simp only [boltDelete, hf]

theorem dropRecord_eq (db : DB) (name : Bytes) :
    dropRecord db name = SMap.insert (ensureTop db metaName) metaName (SMap.erase (metaKV db) (metaKey name)) :=
  boltDelete_eq (ensureTop_find_meta db) _

theorem createBucket_eq (db : DB) {b : Bytes} (hv : validateBucketName b = true) :
    createBucket db b =
      if (SMap.find db b).isSome then (db, .err .BucketAlreadyExists)
      else (SMap.insert (SMap.insert (ensureTop db metaName) metaName
              (SMap.insert (metaKV db) (metaKey b) .bucketRec)) b [], .ok ()) := by
  obtain ⟨hbm, hbn⟩ := valid_ne_meta hv
  have hk := key_fits (metaKey_ne_nil b) <| by
    rw [metaKey, List.length_append]
    exact Nat.le_trans (Nat.add_le_add_left (valid_len hv) _) (by decide)
  simp only [createBucket, update, boltPut, ensureTop_find_meta, hk, Bool.false_eq_true, if_false]
  rw [find_insert_ne (fun x => hbm x.symm), ensureTop_find_ne _ hbm]
  cases (SMap.find db b).isSome with
  | true => rfl
  | false => simp only [Bool.false_eq_true, if_false, List.isEmpty_eq_false_iff.mpr hbn]

theorem deleteBucket_eq (db : DB) {b : Bytes} (hb : b ≠ metaName) :
    deleteBucket db b =
      match SMap.find db b with
      | none => (db, .err .NoSuchBucket)
      | some kv => if kv.isEmpty then (SMap.erase (dropRecord db b) b, .ok ()) else (db, .err .BucketNotEmpty) := by
  simp only [deleteBucket, update, beq_false_of_ne hb, Bool.false_eq_true, if_false]
  cases SMap.find db b with
  | none => rfl
  | some kv =>
    simp only
    cases kv.isEmpty <;> rfl

theorem putObject_eq (md5 : Bytes → Bytes) (db : DB) (b k : Bytes) (md : Meta) (body : Bytes) :
    putObject md5 db b k md body =
      match s3Bucket db b with
      | none => (db, .err .NoSuchBucket)
      | some kv =>
        if k.isEmpty || k.length > maxKeySize then (db, .err .Internal)
        else (SMap.insert db b (SMap.insert kv k (.obj ⟨body, md5 body, mergedMeta db b k md⟩)), .ok ()) := by
  simp only [putObject, update, boltPut]
  rcases s3Bucket_cases db b with ⟨h1, _⟩ | ⟨kv, _, hf, h1, _⟩
  · simp only [h1]
  · simp only [h1, hf]
    cases (k.isEmpty || decide (k.length > maxKeySize)) <;> rfl

theorem deleteObject_eq (db : DB) (b k : Bytes) :
    deleteObject db b k =
      match s3Bucket db b with
      | none => (db, .err .NoSuchBucket)
      | some _ => (boltDelete db b k, .ok ()) := by
  simp only [deleteObject, update]
  cases s3Bucket db b <;> rfl

theorem deleteMulti_eq (db : DB) (b : Bytes) (ks : List Bytes) :
    deleteMulti db b ks =
      match s3Bucket db b with
      | none => (db, .err .NoSuchBucket)
      | some _ => (ks.foldl (fun acc k => boltDelete acc b k) db, .ok ks) := by
  simp only [deleteMulti, update]
  cases s3Bucket db b <;> rfl

theorem meta_write {db : DB} {kv : SMap BVal} (hi : Inv db) (hk : Sorted (metaKV db) → Sorted kv) :
    Inv (SMap.insert (ensureTop db metaName) metaName kv) ∧
    abs (SMap.insert (ensureTop db metaName) metaName kv) = abs db := by
  have hi1 := inv_ensureTop hi
  exact ⟨inv_insert hi1 (hk (inv_find hi1 (ensureTop_find_meta db))),
    by rw [abs_insert_meta hi1.1, abs_ensureTop hi.1]⟩

theorem createBucket_refines {db : DB} {b : Bytes} (hi : Inv db) (hv : validateBucketName b = true) :
    Inv (createBucket db b).1 ∧ abs (createBucket db b).1 = (step (abs db) (.createBucket b)).1 ∧
    C02R.ansOf (createBucket db b).2 = (step (abs db) (.createBucket b)).2 := by
  obtain ⟨hbm, _⟩ := valid_ne_meta hv
  rw [createBucket_eq db hv]
  simp only [step]
  rw [abs_find, if_neg hbm, Option.isSome_map]
  cases (SMap.find db b).isSome with
  | true => exact ⟨hi, rfl, rfl⟩
  | false =>
    obtain ⟨hi2, ha⟩ := meta_write (kv := SMap.insert (metaKV db) (metaKey b) .bucketRec) hi sorted_insert
    refine ⟨inv_insert hi2 sorted_nil, ?_, rfl⟩
    simp only [Bool.false_eq_true, if_false]
    rw [abs_insert_ne hi2.1 hbm, ha]
    rfl

theorem deleteBucket_refines {db : DB} {b : Bytes} (hi : Inv db) (hbm : b ≠ metaName) :
    Inv (deleteBucket db b).1 ∧
    abs (deleteBucket db b).1 = (step (abs db) (.deleteBucket b)).1 ∧
    C02R.ansOf (deleteBucket db b).2 = (step (abs db) (.deleteBucket b)).2 := by
  rw [deleteBucket_eq db hbm]
  simp only [step]
  rw [abs_find, if_neg hbm]
  cases SMap.find db b with
  | none => exact ⟨hi, rfl, rfl⟩
  | some kv =>
    simp only [Option.map_some, isEmpty_mapV]
    cases kv.isEmpty with
    | false => exact ⟨hi, rfl, rfl⟩
    | true =>
      obtain ⟨h1, h2⟩ := meta_write (kv := SMap.erase (metaKV db) (metaKey b)) hi sorted_erase
      rw [if_pos rfl, if_pos rfl, dropRecord_eq]
      exact ⟨inv_erase h1, by rw [abs_erase, h2], rfl⟩

theorem putObject_refines (md5 : Bytes → Bytes) {db : DB} (b : Bytes) {k : Bytes} (md : Meta) (body : Bytes) (hi : Inv db)
    (hk : k ≠ []) (hkl : k.length ≤ Front.KeySizeLimit) :
    Inv (putObject md5 db b k md body).1 ∧
    abs (putObject md5 db b k md body).1 = (step (abs db) (.put b k body)).1 ∧
    C02R.ansOf (putObject md5 db b k md body).2 = (step (abs db) (.put b k body)).2 := by
  have hke := key_fits (List.isEmpty_eq_false_iff.mpr hk) (Nat.le_trans hkl (by decide))
  rw [putObject_eq]
  simp only [step, hke, Bool.false_eq_true, if_false]
  rcases s3Bucket_cases db b with ⟨h1, h2⟩ | ⟨kv, hbm, hf, h1, h2⟩
  · rw [h1, h2]; exact ⟨hi, rfl, rfl⟩
  · rw [h1, h2]
    refine ⟨inv_insert hi (sorted_insert (inv_find hi hf)), ?_, rfl⟩
    rw [abs_insert_ne hi.1 hbm, mapV_insert]
    rfl

theorem deleteObject_refines {db : DB} (b k : Bytes) (hi : Inv db) :
    Inv (deleteObject db b k).1 ∧
    abs (deleteObject db b k).1 = (step (abs db) (.delete b k)).1 ∧
    C02R.ansOf (deleteObject db b k).2 = (step (abs db) (.delete b k)).2 := by
  rw [deleteObject_eq]
  simp only [step]
  rcases s3Bucket_cases db b with ⟨h1, h2⟩ | ⟨kv, hbm, _, h1, h2⟩
  · rw [h1, h2]; exact ⟨hi, rfl, rfl⟩
  · rw [h1, h2]
    exact ⟨(boltDelete_abs k hi hbm).1, (boltDelete_abs k hi hbm).2, rfl⟩

theorem deleteMulti_refines {db : DB} (b : Bytes) (ks : List Bytes) (hi : Inv db) :
    Inv (deleteMulti db b ks).1 ∧
    abs (deleteMulti db b ks).1 = (step (abs db) (.deleteMulti b ks)).1 ∧
    C02R.ansOf (deleteMulti db b ks).2 = (step (abs db) (.deleteMulti b ks)).2 := by
  rw [deleteMulti_eq]
  simp only [step]
  rcases s3Bucket_cases db b with ⟨h1, h2⟩ | ⟨kv, hbm, _, h1, h2⟩
  · rw [h1, h2]; exact ⟨hi, rfl, rfl⟩
  · rw [h1, h2]
    exact ⟨(foldl_delete_abs ks hbm hi).1, (foldl_delete_abs ks hbm hi).2, rfl⟩

theorem copyObject_ok (md5 : Bytes → Bytes) {db : DB} {sb sk : Bytes} (dstB dstK : Bytes) (md : Meta) {src : BObj}
    (h : getObject db sb sk = .ok src) :
    (copyObject md5 db sb sk dstB dstK md).1 = (putObject md5 db dstB dstK md src.body).1 ∧
    C02R.ansOf (copyObject md5 db sb sk dstB dstK md).2 = C02R.ansOf (putObject md5 db dstB dstK md src.body).2 := by
  unfold copyObject
  rw [h]
  simp only
  cases putObject md5 db dstB dstK md src.body with
  | mk d r => cases r <;> exact ⟨rfl, rfl⟩

def Ref (r : DB × Res HOut) (q : Store × Ans) : Prop := Inv r.1 ∧ abs r.1 = q.1 ∧ ansOf r.2 = q.2

theorem lift_fst {α} (r : DB × Res α) (f : α → HOut) : (lift r f).1 = r.1 := by
  obtain ⟨d, x⟩ := r
  cases x <;> rfl

theorem ansOf_lift {α} (r : DB × Res α) (f : α → HOut) (hf : ∀ a, ansOf (.ok (f a)) = .ok) :
    ansOf (lift r f).2 = C02R.ansOf r.2 := by
  obtain ⟨d, x⟩ := r
  cases x with
  | ok a => exact hf a
  | err c | panic s => rfl

theorem ref_lift {α} {r : DB × Res α} {f : α → HOut} {q : Store × Ans} (hf : ∀ a, ansOf (.ok (f a)) = .ok)
    (h : Inv r.1 ∧ abs r.1 = q.1 ∧ C02R.ansOf r.2 = q.2) : Ref (lift r f) q := by
  unfold Ref
  rw [lift_fst, ansOf_lift r f hf]
  exact h

theorem ref_withBucket {db : DB} {op : Op} {b : Bytes} {f : Unit → DB × Res HOut} (hi : Inv db)
    (hb : C02F.bucketOf op = some b) (h : bucketExists db b = true → Ref (f ()) (step (abs db) op)) :
    Ref (withBucket db b f) (step (abs db) op) := by
  unfold withBucket
  cases he : bucketExists db b with
  | true => exact h he
  | false =>
    have hn : SMap.find (abs db) b = none := by
      rw [bucketExists_abs] at he
      exact Option.not_isSome_iff_eq_none.mp (by simp [he])
    rw [C02F.spec_absent _ op b hb hn]
    exact ⟨hi, rfl, rfl⟩

theorem getObject_refines {db : DB} (b k : Bytes) (hi : Inv db) :
    Ref (lift (db, getObject db b k) fun o => HOut.object o) (step (abs db) (.get b k)) := by
  refine ⟨by rw [lift_fst]; exact hi, by rw [lift_fst, SpecS.step_get_fst], ?_⟩
  unfold getObject
  simp only [step]
  rcases s3Bucket_cases db b with ⟨h1, h2⟩ | ⟨kv, _, _, h1, h2⟩
  · rw [h1, h2]; rfl
  · rw [h1, h2]
    simp only [find_mapV]
    cases hk : SMap.find kv k with
    | none => rfl
    | some v => cases v <;> rfl

theorem listBuckets_abs (db : DB) : listBuckets db = SMap.keys (abs db) := by
  rw [abs, keys_mapV]
  exact List.filter_map ..

/-- **bolt_step_refines**: one request on s3bolt — in any database that satisfies bbolt's
    ordering invariant — is answered exactly as the reference model answers it, and the new
    database abstracts to the reference model's new store (and satisfies the invariant). -/
theorem bolt_step_refines (md5 : Bytes → Bytes) (db : DB) (op : Op) (hi : Inv db) (hop : OpOk op) :
    Inv (handle md5 db op).1 ∧ abs (handle md5 db op).1 = (step (abs db) op).1 ∧
    ansOf (handle md5 db op).2 = (step (abs db) op).2 := by
  cases op with
  | createBucket b =>
    have hv : validateBucketName b = true := hop
    simp only [handle, hv, Bool.not_true, Bool.false_eq_true, if_false]
    exact ref_lift (fun _ => rfl) (createBucket_refines hi hv)
  | headBucket b =>
    refine ref_withBucket hi rfl fun he => ?_
    rw [bucketExists_abs] at he
    simp only [step, he, if_true]
    exact ⟨hi, rfl, rfl⟩
  | deleteBucket b =>
    exact ref_withBucket hi rfl fun he => ref_lift (fun _ => rfl) (deleteBucket_refines hi (exists_ne_meta he))
  | listBuckets => exact ⟨hi, rfl, congrArg Ans.buckets (listBuckets_abs db)⟩
  | put b k body =>
    refine ref_withBucket hi rfl fun _ => ?_
    rw [if_neg (Nat.not_lt.mpr hop.2)]
    exact ref_lift (fun _ => rfl) (putObject_refines md5 b [] body hi hop.1 hop.2)
  | get b k | head b k => exact ref_withBucket hi rfl fun _ => getObject_refines b k hi
  | delete b k => exact ref_withBucket hi rfl fun _ => ref_lift (fun _ => rfl) (deleteObject_refines b k hi)
  | deleteMulti b ks => exact ref_withBucket hi rfl fun _ => ref_lift (fun _ => rfl) (deleteMulti_refines b ks hi)
  | copy sb sk dstB dstK =>
    refine ref_withBucket hi rfl fun he => ?_
    rw [if_neg (Nat.not_lt.mpr hop.2), SpecS.step_copy (bucketExists_abs db dstB ▸ he),
      ← (getObject_refines sb sk hi).2.2]
    cases hgo : getObject db sb sk with
    | err c | panic s => exact ⟨hi, rfl, rfl⟩
    | ok src =>
      obtain ⟨e1, e2⟩ := copyObject_ok md5 dstB dstK (mergeMeta [] (src.md.filter (fun p => !(p.1 == Front.aclKey)))) hgo
      refine ref_lift (q := step (abs db) (.put dstB dstK src.body)) (fun _ => rfl) ?_
      rw [e1, e2]
      exact putObject_refines md5 dstB _ src.body hi hop.1 hop.2

/-- running a whole request sequence on the s3bolt model -/
def boltRun (md5 : Bytes → Bytes) (db : DB) (ops : List Op) : DB × List Ans :=
  ops.foldl (fun (acc : DB × List Ans) op => let r := handle md5 acc.1 op; (r.1, acc.2 ++ [ansOf r.2])) (db, [])

/-- **bolt_run_refines** (C02 for s3bolt): every finite sequence of bucket and object requests,
    started in any database that satisfies bbolt's ordering invariant (the empty file in
    particular), is answered by s3bolt exactly as the reference model of S3 answers it, response by
    response.  With C02R.run_refines: s3bolt and s3mem agree with the model, hence with each other. -/
theorem bolt_run_refines (md5 : Bytes → Bytes) (db : DB) (ops : List Op) (hi : Inv db) (hops : ∀ op ∈ ops, OpOk op) :
    Inv (boltRun md5 db ops).1 ∧ abs (boltRun md5 db ops).1 = (run (abs db) ops).1 ∧
    (boltRun md5 db ops).2 = (run (abs db) ops).2 :=
  Fold.trace_refines (f := fun db op => ((handle md5 db op).1, ansOf (handle md5 db op).2)) (g := step) ops db
    (fun db op hop hi => bolt_step_refines md5 db op hi (hops op hop)) hi

/-- (C10/C17) the bucket listing never shows the bookkeeping bucket, whatever the database holds -/
theorem listBuckets_never_meta (db : DB) : metaName ∉ listBuckets db := by
  intro h
  have := (List.mem_filter.mp h).2
  simp at this

def b1 : Bytes := [98, 107, 49]   -- "bk1"
/-! Non-vacuity: create, overwrite, self-copy, copy from the bookkeeping bucket (refused), delete, remove. -/
example : (boltRun id DB.empty
    [.createBucket b1, .put b1 [107] [1], .put b1 [107] [2], .copy b1 [107] b1 [107], .get b1 [107],
     .copy metaName (metaKey b1) b1 [120], .createBucket b1,
     .deleteBucket b1, .delete b1 [107], .get b1 [107], .deleteBucket b1, .get b1 [107], .listBuckets]).2
    = [.ok, .ok, .ok, .ok, .object [2], .err .NoSuchBucket, .err .BucketAlreadyExists,
       .err .BucketNotEmpty, .ok, .err .NoSuchKey, .ok, .err .NoSuchBucket, .buckets []] := by decide +kernel
example : Inv DB.empty ∧ ∀ op ∈ [Op.createBucket b1, .put b1 [107] [1]], OpOk op := by
  refine ⟨inv_empty, ?_⟩
  intro op h
  simp at h
  rcases h with rfl | rfl
  · show validateBucketName b1 = true; decide
  · exact ⟨by decide, by decide⟩

end GFS.Props.BoltR
