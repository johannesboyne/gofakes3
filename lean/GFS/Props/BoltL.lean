import GFS.Model.Bolt
import GFS.Props.C03
import GFS.Props.C03G
/-
  C03 for s3bolt: the cursor loop of `ListBucket` produces exactly what the (unpaginated)
  s3mem loop produces on the same keys — so the theorems list_plain_exact / list_delim_exact
  (Contents = the matching keys in the order the cursor yields them, with size and digest;
  CommonPrefixes = the grouped keys, each once) hold for the bolt listing as well.
-/
namespace GFS.Props.BoltL
open GFS.Model GFS.Model.Bolt GFS.Props.C03G GFS.Props.ListLoop

def objOf : BVal → BObj
  | .obj o => o
  | .bucketRec => ⟨[], [], []⟩

/-- a bolt bucket seen as a never-versioned s3mem bucket -/
def embed (kv : List (Bytes × BVal)) : List (Key × Obj) :=
  kv.map fun q => (q.1, ⟨some ⟨0, false, (objOf q.2).body, (objOf q.2).hash, (objOf q.2).md⟩, []⟩)

theorem embed_data (kv : List (Bytes × BVal)) : ∀ q ∈ embed kv, q.2.data ≠ none := by
  intro q hq
  obtain ⟨a, _, rfl⟩ := List.mem_map.mp hq
  simp

theorem bolt_loop_canonical (p : Prefix) (kv : List (Bytes × BVal)) (acc : ObjectList) :
    Bolt.listLoop p kv acc = canon p acc (embed kv) := by
  induction kv generalizing acc with
  | nil => rw [Bolt.listLoop, embed, List.map_nil, canon_nil]
  | cons q rest ih =>
    obtain ⟨k, v⟩ := q
    have hlm := liveMatch_live p k ⟨0, false, (objOf v).body, (objOf v).hash, (objOf v).md⟩ [] rfl
    unfold Bolt.listLoop
    rw [embed, List.map_cons]
    cases hm : p.match_ k with
    | none =>
      rw [hm] at hlm
      rw [canon_cons_none hlm]; exact ih acc
    | some r =>
      rw [hm] at hlm
      rw [canon_cons_some hlm, ← embed, ← ih]
      cases v <;> rfl

theorem loop_of_no_match {p : Prefix} {kv : List (Bytes × BVal)} (h : ∀ q ∈ kv, p.match_ q.1 = none) (acc : ObjectList) :
    Bolt.listLoop p kv acc = acc := by
  induction kv with
  | nil => rfl
  | cons q rest ih =>
    obtain ⟨k, v⟩ := q
    unfold Bolt.listLoop
    rw [h (k, v) List.mem_cons_self]
    exact ih fun q hq => h q (List.mem_cons_of_mem _ hq)

theorem loop_contents (p : Prefix) (kv : List (Bytes × BVal)) :
    (Bolt.listLoop p kv ⟨[], [], false, []⟩).contents =
      kv.filterMap (fun q =>
        match p.match_ q.1 with
        | some (false, _) => some ⟨q.1, (objOf q.2).body.length, (objOf q.2).hash⟩
        | _ => none) := by
  rw [bolt_loop_canonical]
  simp only [canon, contentsOf, embed, List.filterMap_map]
  apply List.filterMap_congr'
  intro q _
  simp only [Function.comp, liveMatch]
  cases p.match_ q.1 with
  | none => rfl
  | some r => obtain ⟨cp, mp⟩ := r; cases cp <;> rfl

theorem loop_prefixes_mem (p : Prefix) (kv : List (Bytes × BVal)) (x : Bytes) :
    x ∈ (Bolt.listLoop p kv ⟨[], [], false, []⟩).prefixes ↔
      ∃ q ∈ kv, p.match_ q.1 = some (true, x) := by
  rw [bolt_loop_canonical]
  show x ∈ addAll [] (cpsOf p (embed kv)) ↔ _
  rw [mem_addAll_nil]
  constructor
  · intro h
    obtain ⟨q, hq, hm⟩ := mem_cpsOf h
    obtain ⟨a, ha, rfl⟩ := List.mem_map.mp hq
    exact ⟨a, ha, hm⟩
  · rintro ⟨q, hq, hm⟩
    refine List.mem_filterMap.mpr ⟨_, List.mem_map.mpr ⟨q, hq, rfl⟩, ?_⟩
    simp [liveMatch, hm]

/-- **bolt_list_eq_mem**: on every bucket content whose common prefixes are non-empty (no key
    starts with the delimiter), the bolt listing is the s3mem listing of the same keys -/
theorem bolt_list_eq_mem (p : Prefix) (kv : List (Bytes × BVal))
    (hne : ∀ q ∈ embed kv, ∀ mp, p.match_ q.1 = some (true, mp) → mp ≠ []) :
    Model.listLoop p 0 (embed kv) 0 [] ⟨[], [], false, []⟩ = .ok (Bolt.listLoop p kv ⟨[], [], false, []⟩) := by
  rw [listLoop_unpaged p (embed kv) 0 [] ⟨[], [], false, []⟩ (embed_data kv) (Or.inl rfl) hne, bolt_loop_canonical]
  rfl

open GFS.Spec.Listing in
/-- **bolt_list_delim_exact**: `list_delim_exact` for the bolt cursor loop (same domain): Contents
    and CommonPrefixes are exactly the specification's, in the cursor's order, each common prefix
    once; never truncated. -/
theorem bolt_list_delim_exact (hasP : Bool) (d : UInt8) (pfx : Bytes) (kv : List (Bytes × BVal))
    (hdom : ∀ q ∈ kv, q.1.head? ≠ some d ∧ q.1.getLast? ≠ some d) (hp : pfx.head? ≠ some d) :
    let r := Bolt.listLoop ⟨hasP, pfx, true, d⟩ kv ⟨[], [], false, []⟩
    r.truncated = false ∧
    r.contents = (embed kv).filterMap (fun q =>
        match live q, entryOf pfx (some d) q.1 with
        | some c, some (.content _) => some c
        | _, _ => none) ∧
    r.prefixes.Nodup ∧
    ∀ x, x ∈ r.prefixes ↔ ∃ q ∈ embed kv, (live q).isSome ∧ entryOf pfx (some d) q.1 = some (.cprefix x) := by
  have hdom' : ∀ q ∈ embed kv, q.1.head? ≠ some d ∧ q.1.getLast? ≠ some d := List.forall_mem_map.mpr hdom
  obtain ⟨r, hr, h⟩ := list_delim_exact hasP d pfx (embed kv) (embed_data kv) hdom' hp
  rw [bolt_list_eq_mem _ kv (cp_ne_nil hasP hdom' hp)] at hr
  cases hr
  exact h

/-- **bolt_list_plain_exact**: without a delimiter the bolt cursor loop reports, of whatever
    key/value pairs the cursor yields, exactly those whose key starts with the prefix, in the
    cursor's order, with size and digest; no common prefixes, not truncated.  (That the cursor
    yields each key once, ascending, is bbolt's and not stated here.) -/
theorem bolt_list_plain_exact (pfx : Bytes) (kv : List (Bytes × BVal)) :
    Bolt.listLoop (GFS.Props.C03.plain pfx) kv ⟨[], [], false, []⟩ =
      { contents := GFS.Props.C03.shown pfx (embed kv), prefixes := [], truncated := false, next := [] } := by
  rw [bolt_loop_canonical, canon, GFS.Props.C03.cpsOf_plain, GFS.Props.C03.contentsOf_plain]; rfl

end GFS.Props.BoltL
