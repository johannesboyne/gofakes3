import GFS.Props.FsR
/-
  The single-bucket file-system backend (single.go; Model/FsBackend `Single`: the multi-bucket
  object methods behind the test `bucketName != db.name`, no CreateBucket / DeleteBucket).  Over a
  store that holds just its bucket, gofakes3.go answers every request it can serve exactly as over
  the multi-bucket backend (`handle_eq`), so `FsR.fs_run_refines` carries over
  (`single_run_refines`).
-/
namespace GFS.Props.FsS1
open GFS.Model GFS.Model.FsB GFS.Spec.S3 GFS.Props.FsR

def withBucketS {α} (name : Bytes) (s : FsS) (b : Bytes) (f : Unit → FsS × Res α) : FsS × Res α :=
  if Single.bucketExists name b then f () else (s, .err .NoSuchBucket)

/-- one request of the reference alphabet as gofakes3.go serves it on the single-bucket backend -/
def handleS (md5 : Bytes → Bytes) (name : Bytes) (s : FsS) : Op → FsS × Res HOut
  | .createBucket b =>
    if !validateBucketName b then (s, .err .InvalidBucketName) else lift (Single.createBucket s) fun _ => .unit
  | .headBucket b => withBucketS name s b fun _ => (s, .ok .unit)
  | .deleteBucket b => withBucketS name s b fun _ => lift (Single.deleteBucket s) fun _ => .unit
  | .listBuckets => (s, .ok (.names (Single.listBuckets name)))
  | .put b k body => withBucketS name s b fun _ =>
      if k.length > Front.KeySizeLimit then (s, .err .KeyTooLong)
      else lift (Single.putObject md5 name s b k [] body) fun _ => .hash (md5 body)
  | .get b k | .head b k => withBucketS name s b fun _ => lift (s, Single.getObject md5 name s b k) fun o => .object o
  | .delete b k => withBucketS name s b fun _ => lift (Single.deleteObject name s b k) fun _ => .unit
  | .deleteMulti b ks => withBucketS name s b fun _ => lift (Single.deleteMulti name s b ks) fun r => .keys r.1 r.2
  | .copy sb sk dstB dstK => withBucketS name s dstB fun _ =>
      if dstK.length > Front.KeySizeLimit then (s, .err .KeyTooLong)
      else match Single.getObject md5 name s sb sk with
        | .err c => (s, .err c)
        | .panic x => (s, .panic x)
        | .ok src =>
          lift (Single.copyObject md5 name s sb sk dstB dstK (mergeMeta [] (src.md.filter (fun p => !(p.1 == Front.aclKey))))) fun h => .hash h

/-- the store holds exactly the backend's one bucket -/
def OnlyB (name : Bytes) (s : FsS) : Prop := ∃ bk, s.buckets = [(name, bk)]

/-- requests the single-bucket backend can serve (it cannot create or delete buckets) -/
def ObjOp : Op → Prop
  | .createBucket _ => False
  | .deleteBucket _ => False
  | _ => True

theorem exists_only (name b : Bytes) (bk : Bkt) (hv : validateBucketName name = true) :
    bucketExists ⟨[(name, bk)]⟩ b = Single.bucketExists name b := by
  unfold bucketExists Single.bucketExists
  rw [SMap.find_cons]
  by_cases h : name = b
  · subst h; simp [hv]
  · have h2 : (b == name) = false := by simpa using (Ne.symm h)
    simp [h, h2]

theorem get_only (md5 : Bytes → Bytes) (name b k : Bytes) (bk : Bkt) :
    Single.getObject md5 name ⟨[(name, bk)]⟩ b k = getObject md5 ⟨[(name, bk)]⟩ b k := by
  unfold Single.getObject
  by_cases h : b = name
  · subst h; simp
  · have h1 : (b != name) = true := by simpa using h
    simp [h1, getObject, SMap.find_cons, Ne.symm h]

def Touch (s s' : FsS) : Prop := s' = s ∨ ∃ b bk', (SMap.find s.buckets b).isSome = true ∧ s' = ⟨SMap.insert s.buckets b bk'⟩

theorem put_touch (md5 : Bytes → Bytes) (s : FsS) (b k : Bytes) (md : Meta) (body : Bytes) :
    Touch s (putObject md5 s b k md body).1 := by
  unfold putObject
  cases Fs.keyPath k with
  | none => exact Or.inl rfl
  | some p =>
    cases hb : SMap.find s.buckets b with
    | none => exact Or.inl rfl
    | some bk =>
      simp only
      cases Fs.put bk.tree p body with
      | none => exact Or.inl rfl
      | some t' => exact Or.inr ⟨b, _, by rw [hb]; rfl, rfl⟩

theorem delete_touch (s : FsS) (b k : Bytes) : Touch s (deleteObject s b k).1 := by
  unfold deleteObject
  cases hb : SMap.find s.buckets b with
  | none => exact Or.inl rfl
  | some bk =>
    simp only
    cases deleteIn bk k with
    | none => exact Or.inl rfl
    | some bk' => exact Or.inr ⟨b, _, by rw [hb]; rfl, rfl⟩

theorem deleteMulti_touch (s : FsS) (b : Bytes) (ks : List Bytes) : Touch s (deleteMulti s b ks).1 := by
  unfold deleteMulti
  cases hb : SMap.find s.buckets b with
  | none => exact Or.inl rfl
  | some bk => exact Or.inr ⟨b, _, by rw [hb]; rfl, rfl⟩

theorem copy_touch (md5 : Bytes → Bytes) (s : FsS) (sb sk b k : Bytes) (md : Meta) :
    Touch s (copyObject md5 s sb sk b k md).1 := by
  unfold copyObject
  cases getObject md5 s sb sk with
  | err c | panic x => exact Or.inl rfl
  | ok src =>
    have := put_touch md5 s b k md src.body
    simp only
    cases hq : putObject md5 s b k md src.body with
    | mk s' r => rw [hq] at this; cases r <;> exact this

theorem OnlyB.touch {name : Bytes} {s s' : FsS} (ho : OnlyB name s) (h : Touch s s') : OnlyB name s' := by
  obtain ⟨bk, hs⟩ := ho
  rcases h with rfl | ⟨b, bk', hb, rfl⟩
  · exact ⟨bk, hs⟩
  · rw [hs, SMap.find_cons] at hb
    by_cases e : name = b
    · subst e
      exact ⟨bk', by rw [hs]; simp [SMap.insert]⟩
    · rw [if_neg e] at hb; cases hb

theorem withBucketS_eq {α} {name : Bytes} (hv : validateBucketName name = true) {bk : Bkt} {b : Bytes}
    {f g : Unit → FsS × Res α} (h : b = name → f () = g ()) :
    withBucketS name ⟨[(name, bk)]⟩ b f = withBucket ⟨[(name, bk)]⟩ b g := by
  unfold withBucketS withBucket
  rw [exists_only name b bk hv]
  cases he : Single.bucketExists name b with
  | false => rfl
  | true => exact h (eq_of_beq he)

theorem withBucket_fst {α} {P : FsS → Prop} {s : FsS} {b : Bytes} {f : Unit → FsS × Res α} (h : P s) (hf : P (f ()).1) :
    P (withBucket s b f).1 := by
  unfold withBucket
  split
  · exact hf
  · exact h

/-- **handle_eq**: on a store that holds exactly the backend's bucket, every request the
    single-bucket backend can serve is answered — and changes the store — exactly as on the
    multi-bucket backend, and the store keeps that shape -/
theorem handle_eq (md5 : Bytes → Bytes) (name : Bytes) (hv : validateBucketName name = true) (s : FsS) (op : Op)
    (ho : OnlyB name s) (hop : ObjOp op) :
    handleS md5 name s op = handle md5 s op ∧ OnlyB name (handle md5 s op).1 := by
  obtain ⟨bk, hs⟩ := ho
  obtain ⟨bks⟩ := s
  subst hs
  have hs : OnlyB name ⟨[(name, bk)]⟩ := ⟨bk, rfl⟩
  have hget := get_only md5 name
  -- unfolded before the case split: `withBucketS_eq …` does not unify with `handleS … op = handle … op`
  -- directly under `Eq` (the unifier unfolds `withBucketS` first and is left with `?f () =?= …`)
  unfold handleS handle
  cases op with
  | createBucket b | deleteBucket b => exact hop.elim
  | headBucket b => exact ⟨withBucketS_eq hv fun _ => rfl, withBucket_fst hs hs⟩
  | listBuckets => exact ⟨by simp [Single.listBuckets, listBuckets, SMap.keys, hv], hs⟩
  | get b k | head b k =>
    exact ⟨withBucketS_eq hv fun _ => by rw [hget],
      withBucket_fst hs (by rw [lift_fst]; exact hs)⟩
  | put b k body =>
    refine ⟨withBucketS_eq hv fun e => by subst e; rw [single_put_eq],
      withBucket_fst hs ?_⟩
    split
    · exact hs
    · rw [lift_fst]; exact hs.touch (put_touch md5 _ b k [] body)
  | delete b k =>
    exact ⟨withBucketS_eq hv fun e => by subst e; simp only [Single.deleteObject, bne_self_eq_false, Bool.false_eq_true, if_false],
      withBucket_fst hs (by rw [lift_fst]; exact hs.touch (delete_touch _ b k))⟩
  | deleteMulti b ks =>
    exact ⟨withBucketS_eq hv fun e => by subst e; simp only [Single.deleteMulti, bne_self_eq_false, Bool.false_eq_true, if_false],
      withBucket_fst hs (by rw [lift_fst]; exact hs.touch (deleteMulti_touch _ b ks))⟩
  | copy sb sk dstB dstK =>
    refine ⟨withBucketS_eq hv fun e => ?_, withBucket_fst hs ?_⟩
    · subst e
      simp only [Single.copyObject, hget, Single.putObject, bne_self_eq_false]
      rfl
    · split
      · exact hs
      · cases getObject md5 ⟨[(name, bk)]⟩ sb sk with
        | err c | panic x => exact hs
        | ok src => simp only; rw [lift_fst]; exact hs.touch (copy_touch md5 _ sb sk dstB dstK _)

/-- the single-bucket backend and the reference model side by side (as `FsR.lock`) -/
def lockS (md5 : Bytes → Bytes) (name : Bytes) (acc : FsS × Store × Bool) (op : Op) : FsS × Store × Bool :=
  let r := handleS md5 name acc.1 op
  let q := step acc.2.1 op
  if ansOf r.2 = q.2 then (r.1, q.1, acc.2.2)
  else if refusedB op r.2 then (r.1, acc.2.1, acc.2.2)
  else (r.1, q.1, false)

theorem lock_fst (md5 : Bytes → Bytes) (acc : FsS × Store × Bool) (op : Op) :
    (lock md5 acc op).1 = (handle md5 acc.1 op).1 := by
  simp only [lock]
  split
  · rfl
  · split <;> rfl

theorem lockS_eq (md5 : Bytes → Bytes) (name : Bytes) (hv : validateBucketName name = true) (ops : List Op)
    (hops : ∀ op ∈ ops, ObjOp op) (acc : FsS × Store × Bool) (ho : OnlyB name acc.1) :
    ops.foldl (lockS md5 name) acc = ops.foldl (lock md5) acc :=
  (Fold.foldl_rel (R := fun a b => a = b ∧ OnlyB name a.1) (f := lockS md5 name) (g := lock md5) ops acc acc
    (fun a b op hmem hab => by
      obtain ⟨rfl, ho⟩ := hab
      obtain ⟨heq, hkeep⟩ := handle_eq md5 name hv a.1 op ho (hops op hmem)
      have hstep : lockS md5 name a op = lock md5 a op := by simp only [lockS, lock, heq]
      rw [hstep, lock_fst]
      exact ⟨rfl, hkeep⟩) ⟨rfl, ho⟩).1

/-- **single_run_refines** (C02 for the single-bucket backend): along every finite sequence of
    requests it can serve (all but create / delete bucket, to any bucket name), started on its empty
    store, every request it does not refuse is answered exactly as the reference model of S3
    holding that one bucket answers it, a refused one changes nothing, and the stores stay related. -/
theorem single_run_refines (md5 : Bytes → Bytes) (name : Bytes) (hv : validateBucketName name = true) (ops : List Op)
    (hops : ∀ op ∈ ops, OpOk op ∧ ObjOp op) :
    (ops.foldl (lockS md5 name) (Single.init name, [(name, [])], true)).2.2 = true ∧
    Rel (ops.foldl (lockS md5 name) (Single.init name, [(name, [])], true)).1
        (ops.foldl (lockS md5 name) (Single.init name, [(name, [])], true)).2.1 := by
  rw [lockS_eq md5 name hv ops (fun o h => (hops o h).2) _ ⟨_, rfl⟩]
  obtain ⟨hi, hr⟩ := single_init name hv
  obtain ⟨h1, h2, _⟩ := fs_run_refines md5 ops (Single.init name) [(name, [])] true hr hi (fun o h => (hops o h).1)
  exact ⟨h1, h2⟩

/-! Non-vacuity: put, nested put refused, get, copy, delete, another bucket's name, multi-delete. -/
example : (([.put b1 kA [1], .put b1 kAB [2], .get b1 kAB, .copy b1 kA b1 [99], .delete b1 kA, .put b1 kAB [4],
      .get [120, 120, 120] kA, .deleteMulti b1 [kAB, [99]], .listBuckets, .headBucket b1] : List Op).foldl
      (lockS id b1) (Single.init b1, [(b1, [])], true)).2.2 = true := by decide +kernel

end GFS.Props.FsS1
