import GFS.Props.C07Gen
/-
  C08: "any upload the server rejects leaves the stored state exactly as it was" rests, in every
  backend and in the uploader, on ONE structural fact: the body is read to its end and validated
  (`gofakes3.ReadAll`: declared length, Content-MD5 through the hashing reader, chunk framing)
  BEFORE the first statement that can change stored state.  Props/C08 proves the consequence for
  the modelled upload path; this module checks the fact itself against the source on every run,
  over `Generated/LockFacts` (re-extracted by go/ast).
-/
namespace GFS.Props.C08Gen
open GFS.Props.C07Gen

/-- events that change stored state (object maps, files, directories, metadata, bolt records) -/
def mutates (e : Ev) : Bool :=
  e.1 == "index" || e.1 == "Lock" ||
  (e.1 == "call" && ["put", "rm", "rmVersion", "remove", "add", "Create", "MkdirAll", "Write", "saveMeta", "Remove",
    "removeEmptyDirsLocked", "deleteObjectLocked", "Update", "Put", "Delete", "getUnlocked", "OpenFile"].contains e.2)

/-- the body is read before anything that mutates: `ReadAll` occurs, and nothing before it mutates -/
def readFirst : List Ev → Bool
  | [] => false
  | e :: rest => if e == ("call", "ReadAll") then true else if mutates e then false else readFirst rest

theorem readFirst_of_take {l t : List Ev} {n : Nat} (h : l.take (n + 1) = ("call", "ReadAll") :: t) :
    readFirst l = true := by
  cases l with
  | nil => cases h
  | cons e rest =>
    cases h
    simp [readFirst]

/-- **body_read_before_any_write**: in PutObject of every backend and in the uploader's UploadPart
    the whole body is read and validated before the first lock is taken, the first shared map or
    file is touched, the first directory made or the write transaction opened — so a rejected
    upload (bad digest, short or long body, bad framing, failing reader) cannot have changed
    anything (seeded changes that stream into place, prepare directories first or clear the old
    part first break exactly this). -/
theorem body_read_before_any_write :
    ["s3mem.Backend.PutObject", "s3bolt.Backend.PutObject", "s3aferoM.MultiBucketBackend.PutObject",
     "s3aferoS.SingleBucketBackend.PutObject", "gofakes3.uploader.UploadPart"].all
      (fun n => readFirst (traceOf n)) = true := by
  -- the section theorems of C07Gen already say that each of the five traces begins with `ReadAll`
  have hfs := fs_sections.1
  simp only [List.all_cons, List.all_nil, Bool.and_true, Bool.and_eq_true, beq_iff_eq] at hfs ⊢
  exact ⟨readFirst_of_take (n := 8) (by rw [mem_put_sections]; rfl),
    readFirst_of_take (n := 7) (by rw [bolt_sections.1]; rfl),
    readFirst_of_take hfs.1, readFirst_of_take hfs.2, readFirst_of_take uploader_sections.1⟩

/-- and it is read exactly once -/
theorem body_read_once :
    ["s3mem.Backend.PutObject", "s3bolt.Backend.PutObject", "s3aferoM.MultiBucketBackend.PutObject",
     "s3aferoS.SingleBucketBackend.PutObject", "gofakes3.uploader.UploadPart"].all
      (fun n => ((traceOf n).filter (· == ("call", "ReadAll"))).length == 1) = true := by decide +kernel

end GFS.Props.C08Gen
