import GFS.Model.FsBackend
import GFS.Props.FsInv
import GFS.Lemmas.SMapLemmas
import GFS.Lemmas.KeyPath
import GFS.Lemmas.SMapExt
import GFS.Lemmas.Fold
import GFS.Props.SpecS
/-
  The multi-bucket file-system backend (Model/FsBackend over Model/FsTree) against the reference
  model of S3: on every request it either answers as the reference model does, or refuses the key
  (InvalidArgument: not a clean relative path, or in conflict with the directory structure of the
  keys already stored) and changes nothing — and this holds along every request sequence.
-/
namespace GFS.Props.FsR
open GFS.Model GFS.Model.Fs GFS.Model.FsB GFS.SMapL GFS.Spec.S3 GFS.Props.FsInv

/-- every object file of the tree is the file of a key -/
def KeyPaths (t : Tree) : Prop := ∀ f ∈ t.files, ∃ k, keyPath k = some f.1

/-- the bucket relation: the reference model's bucket answers every key as the tree does -/
def Rb (t : Tree) (objs : SMap Bytes) : Prop := ∀ k, SMap.find objs k = getKey t k

theorem getKey_of_content {t t' : Tree} {k : Bytes} {p : Path} {v : Option Bytes} (hk : keyPath k = some p)
    (hc : ∀ p', content t' p' = if p' = p then v else content t p') (k' : Bytes) :
    getKey t' k' = if k = k' then v else getKey t k' := by
  cases hk' : keyPath k' with
  | none =>
    rw [getKey_none hk', getKey_none hk', if_neg fun e => by rw [e, hk'] at hk; cases hk]
  | some p' =>
    rw [getKey_some hk', getKey_some hk', hc p']
    by_cases e : k = k'
    · rw [if_pos e, if_pos (Option.some.inj ((e ▸ hk').symm.trans hk))]
    · rw [if_neg e, if_neg fun (x : p' = p) => e (keyPath_inj hk (x ▸ hk'))]

theorem getKey_put {t t' : Tree} {k : Bytes} {p : Path} {body : Bytes}
    (hk : keyPath k = some p) (hp : put t p body = some t') (k' : Bytes) :
    getKey t' k' = if k = k' then some body else getKey t k' :=
  getKey_of_content hk (content_put hp) k'

theorem getKey_delete {t : Tree} {k : Bytes} {p : Path} (hk : keyPath k = some p) (hd : isDir t p = false) (k' : Bytes) :
    getKey (delete t p) k' = if k = k' then none else getKey t k' :=
  getKey_of_content hk (content_delete (keyPath_ne_nil hk) hd) k'

theorem put_rel {t t' : Tree} {objs : SMap Bytes} {k : Bytes} {p : Path} {body : Bytes}
    (hk : keyPath k = some p) (hp : put t p body = some t') (hR : Rb t objs) : Rb t' (SMap.insert objs k body) := by
  intro k'
  rw [GFS.SMap.find_insert, getKey_put hk hp k', hR k']

theorem put_keyPaths {t t' : Tree} {k : Bytes} {p : Path} {body : Bytes}
    (hk : keyPath k = some p) (hp : put t p body = some t') (h : KeyPaths t) : KeyPaths t' := by
  obtain ⟨_, _, _, hf, _⟩ := put_some hp
  intro f hfm
  rw [hf] at hfm
  rcases List.mem_append.mp hfm with h1 | h1
  · exact h f (List.mem_filter.mp h1).1
  · simp only [List.mem_singleton] at h1
    subst h1
    exact ⟨k, hk⟩

theorem delete_keyPaths {t : Tree} (p : Path) (h : KeyPaths t) : KeyPaths (delete t p) := by
  intro f hf
  unfold delete at hf
  split at hf
  · exact h f hf
  · split at hf
    · exact h f hf
    · rw [prune_files] at hf
      exact h f (List.mem_filter.mp hf).1

theorem dir_has_file (t : Tree) (hi : Inv t) (d : Path) (hd : d ∈ t.dirs) : ∃ f ∈ t.files, IsAnc d f.1 := by
  have hb : ∀ d ∈ t.dirs, d.length ≤ (t.dirs.map List.length).max?.getD 0 := fun d hd =>
    List.le_max?_getD_of_mem (List.mem_map_of_mem hd)
  generalize (t.dirs.map List.length).max?.getD 0 = bound at hb
  -- downwards from the longest directories: a sub-directory is longer, and none is longer than `bound`
  suffices ∀ n, ∀ d ∈ t.dirs, bound - d.length = n → ∃ f ∈ t.files, IsAnc d f.1 from this _ d hd rfl
  intro n
  induction n using Nat.strongRecOn with
  | _ n ih =>
    intro d hd hn
    have hpar : ∀ p : Path, p.dropLast = d → IsAnc d p := fun p hp => hp ▸ parent_isAnc (hp ▸ hi.dirsNe d hd)
    rcases (hasEntries_iff t d).mp (hi.nonEmpty d hd) with ⟨f, hf, _, hdl⟩ | ⟨d', hd', _, hdl⟩
    · exact ⟨f, hf, hpar f.1 hdl⟩
    · have hl := isAnc_length (hpar d' hdl)
      have hlt : bound - d'.length < n := hn ▸ Nat.sub_lt_sub_left (Nat.lt_of_lt_of_le hl (hb d' hd')) hl
      obtain ⟨f, hf, ha⟩ := ih (bound - d'.length) hlt d' hd' rfl
      exact ⟨f, hf, isAnc_trans (hpar d' hdl) ha⟩

theorem hasTopEntries_eq {t : Tree} (hi : Inv t) : hasTopEntries t = !t.files.isEmpty := by
  cases hf : t.files with
  | nil =>
    have hd : t.dirs = [] := List.eq_nil_iff_forall_not_mem.mpr fun d hd => by
      obtain ⟨f, hfm, _⟩ := dir_has_file t hi d hd
      rw [hf] at hfm; cases hfm
    simp [hasTopEntries, hf, hd]
  | cons f fs =>
    have hfm : f ∈ t.files := hf ▸ List.mem_cons_self ..
    simp only [List.isEmpty_cons, Bool.not_false, hasTopEntries, Bool.or_eq_true, List.any_eq_true]
    -- the first segment of an object's path is the object itself or a directory
    cases hp : f.1 with
    | nil => exact absurd hp (hi.filesNe f hfm)
    | cons h rest =>
      cases rest with
      | nil => exact Or.inl ⟨f, hfm, by rw [hp]; rfl⟩
      | cons r rs =>
        exact Or.inr ⟨[h], hi.anc f hfm [h] ⟨List.cons_ne_nil _ _, r :: rs, List.cons_ne_nil _ _, hp⟩, rfl⟩

theorem find_isSome_of_mem {α} (m : SMap α) (q : Bytes × α) (h : q ∈ m) : (SMap.find m q.1).isSome = true :=
  (GFS.SMap.mem_keys_iff m q.1).mp (List.mem_map.mpr ⟨q, h, rfl⟩)

theorem files_isEmpty_eq {t : Tree} {objs : SMap Bytes} (hk : KeyPaths t) (hR : Rb t objs) :
    t.files.isEmpty = objs.isEmpty := by
  rw [Bool.eq_iff_iff, List.isEmpty_iff, List.isEmpty_iff]
  constructor
  · intro hf
    refine List.eq_nil_iff_forall_not_mem.mpr fun q hq => ?_
    have h1 := find_isSome_of_mem objs q hq
    rw [hR q.1, getKey_of_files_nil hf] at h1
    cases h1
  · intro ho
    refine List.eq_nil_iff_forall_not_mem.mpr fun f hf => ?_
    obtain ⟨k, hkk⟩ := hk f hf
    have h1 : (content t f.1).isSome = true := by
      unfold content
      rw [Option.isSome_map, List.find?_isSome]
      exact ⟨f, hf, by simp⟩
    rw [← getKey_some hkk, ← hR k, ho] at h1
    cases h1

structure InvS (s : FsS) : Prop where
  valid : ∀ q ∈ s.buckets, validateBucketName q.1 = true
  tree : ∀ q ∈ s.buckets, Inv q.2.tree ∧ KeyPaths q.2.tree

structure Rel (s : FsS) (st : Store) : Prop where
  names : ∀ b, (SMap.find s.buckets b).isSome = (SMap.find st b).isSome
  keysEq : SMap.keys st = SMap.keys s.buckets
  rb : ∀ b bk objs, SMap.find s.buckets b = some bk → SMap.find st b = some objs → Rb bk.tree objs
  sorted : GFS.SMap.Sorted st ∧ GFS.SMap.Sorted s.buckets

theorem invS_empty : InvS FsS.empty := ⟨fun q h => by simp [FsS.empty] at h, fun q h => by simp [FsS.empty] at h⟩
theorem rel_empty : Rel FsS.empty [] := ⟨by intro b; rfl, rfl, by intro b bk objs h; simp [FsS.empty] at h, GFS.SMap.sorted_nil, GFS.SMap.sorted_nil⟩

theorem invS_find {s : FsS} (hi : InvS s) {b : Bytes} {bk : Bkt} (h : SMap.find s.buckets b = some bk) :
    validateBucketName b = true ∧ Inv bk.tree ∧ KeyPaths bk.tree := by
  have hm := GFS.SMap.find_some_mem h
  exact ⟨hi.valid _ hm, hi.tree _ hm⟩

theorem invS_insert {s : FsS} (hi : InvS s) {b : Bytes} {bk : Bkt} (hv : validateBucketName b = true)
    (ht : Inv bk.tree ∧ KeyPaths bk.tree) : InvS ⟨SMap.insert s.buckets b bk⟩ := by
  constructor
  · intro q hq
    rcases mem_insert hq with e | e
    · subst e; exact hv
    · exact hi.valid q e
  · intro q hq
    rcases mem_insert hq with e | e
    · subst e; exact ht
    · exact hi.tree q e

theorem invS_erase {s : FsS} {b : Bytes} (hi : InvS s) : InvS ⟨SMap.erase s.buckets b⟩ :=
  ⟨fun q hq => hi.valid q (mem_erase hq), fun q hq => hi.tree q (mem_erase hq)⟩

theorem invalid_absent_bucket {s : FsS} (hi : InvS s) {b : Bytes} (h : validateBucketName b = false) :
    SMap.find s.buckets b = none := by
  cases hf : SMap.find s.buckets b with
  | none => rfl
  | some bk => have := (invS_find hi hf).1; rw [h] at this; cases this

theorem bucketExists_rel {s : FsS} {st : Store} (hR : Rel s st) (hi : InvS s) (b : Bytes) :
    bucketExists s b = (SMap.find st b).isSome := by
  unfold bucketExists
  rw [← hR.names b]
  cases hv : validateBucketName b with
  | true => simp
  | false => simp [invalid_absent_bucket hi hv]

theorem listBuckets_rel {s : FsS} {st : Store} (hR : Rel s st) (hi : InvS s) : listBuckets s = SMap.keys st := by
  rw [hR.keysEq]
  refine List.filter_eq_self.mpr fun k hk => ?_
  obtain ⟨q, hq, rfl⟩ := List.mem_map.mp hk
  exact hi.valid q hq

theorem Rel.of {s : FsS} {st : Store} (hn : ∀ b, (SMap.find s.buckets b).isSome = (SMap.find st b).isSome)
    (hrb : ∀ b bk objs, SMap.find s.buckets b = some bk → SMap.find st b = some objs → Rb bk.tree objs)
    (hs : GFS.SMap.Sorted st ∧ GFS.SMap.Sorted s.buckets) : Rel s st :=
  ⟨hn, GFS.SMap.keys_eq_of_isSome hs.1 hs.2 (fun b => (hn b).symm), hrb, hs⟩

theorem rel_insert {s : FsS} {st : Store} {b : Bytes} {bk' : Bkt} {objs' : SMap Bytes} (hR : Rel s st)
    (hrb : Rb bk'.tree objs') : Rel ⟨SMap.insert s.buckets b bk'⟩ (SMap.insert st b objs') := by
  refine Rel.of (fun b' => ?_) (fun b' bk2 objs2 h1 h2 => ?_)
    ⟨GFS.SMap.sorted_insert hR.sorted.1, GFS.SMap.sorted_insert hR.sorted.2⟩
  · simp only [GFS.SMap.find_insert]; split
    · rfl
    · exact hR.names b'
  · rw [GFS.SMap.find_insert] at h1 h2
    by_cases e : b = b'
    · rw [if_pos e] at h1 h2; cases h1; cases h2; exact hrb
    · rw [if_neg e] at h1 h2; exact hR.rb b' bk2 objs2 h1 h2

theorem rel_erase {s : FsS} {st : Store} {b : Bytes} (hR : Rel s st) :
    Rel ⟨SMap.erase s.buckets b⟩ (SMap.erase st b) := by
  refine Rel.of (fun b' => ?_) (fun b' bk2 objs2 h1 h2 => ?_)
    ⟨GFS.SMap.sorted_erase hR.sorted.1, GFS.SMap.sorted_erase hR.sorted.2⟩
  · simp only [GFS.SMap.find_erase]; split
    · rfl
    · exact hR.names b'
  · rw [GFS.SMap.find_erase] at h1 h2
    by_cases e : b = b'
    · rw [if_pos e] at h1; cases h1
    · rw [if_neg e] at h1 h2; exact hR.rb b' bk2 objs2 h1 h2

def ansOf : Res HOut → Ans
  | .ok .unit => .ok
  | .ok (.object o) => .object o.body
  | .ok (.names l) => .buckets l
  | .ok (.keys _ _) => .ok
  | .ok (.hash _) => .ok
  | .err c => .err c
  | .panic _ => .err .Internal

/-- the requests the reference model speaks about: names to create pass the create-bucket rule,
    keys to write are within the key-length limit (an empty key needs no exclusion as in
    `BoltR.OpOk`: `validKey` refuses it) -/
def OpOk : Op → Prop
  | .createBucket b => validateBucketName b = true
  | .put _ k _ => k.length ≤ Front.KeySizeLimit
  | .copy _ _ _ dk => dk.length ≤ Front.KeySizeLimit
  | _ => True

/-- the backend refused the key of a write or delete (`InvalidArgument`: the key is no clean
    relative path, or it conflicts with the directories the stored keys need) -/
def Refused (op : Op) (r : Res HOut) : Prop :=
  r = .err .InvalidArgument ∧ match op with
    | .put .. | .copy .. | .delete .. => True
    | _ => False

theorem bkt_empty : (Inv Tree.empty ∧ KeyPaths Tree.empty) ∧ Rb Tree.empty [] :=
  ⟨⟨inv_empty, fun _ hf => absurd hf List.not_mem_nil⟩, fun k => (getKey_of_files_nil rfl k).symm⟩

theorem bucket_cases {s : FsS} {st : Store} (hR : Rel s st) (hi : InvS s) (b : Bytes) :
    (SMap.find s.buckets b = none ∧ SMap.find st b = none) ∨
    (∃ bk objs, SMap.find s.buckets b = some bk ∧ SMap.find st b = some objs ∧ validateBucketName b = true ∧
      Inv bk.tree ∧ KeyPaths bk.tree ∧ Rb bk.tree objs) := by
  have hn := hR.names b
  cases hb : SMap.find s.buckets b with
  | none =>
    rw [hb] at hn
    exact Or.inl ⟨rfl, Option.not_isSome_iff_eq_none.mp (by rw [← hn]; simp)⟩
  | some bk =>
    rw [hb] at hn
    obtain ⟨objs, ho⟩ := Option.isSome_iff_exists.mp hn.symm
    obtain ⟨hv, hinv, hkp⟩ := invS_find hi hb
    exact Or.inr ⟨bk, objs, rfl, ho, hv, hinv, hkp, hR.rb b bk objs hb ho⟩

def MRef {α} (s : FsS) (refusing : Prop) (r : FsS × Res α) (q : Store × Ans) : Prop :=
  InvS r.1 ∧ ((C02R.ansOf r.2 = q.2 ∧ Rel r.1 q.1) ∨ (refusing ∧ r.2 = .err .InvalidArgument ∧ r.1 = s))

theorem createBucket_rel {s : FsS} {st : Store} (hR : Rel s st) (hi : InvS s) {b : Bytes} (hv : validateBucketName b = true) :
    MRef s False (createBucket s b) (step st (.createBucket b)) := by
  simp only [FsB.createBucket, step]
  rcases bucket_cases hR hi b with ⟨hb, ho⟩ | ⟨bk, objs, hb, ho, _⟩
  · rw [hb, ho]
    exact ⟨invS_insert hi hv bkt_empty.1, Or.inl ⟨rfl, rel_insert hR bkt_empty.2⟩⟩
  · rw [hb, ho]
    exact ⟨hi, Or.inl ⟨rfl, hR⟩⟩

theorem deleteBucket_rel {s : FsS} {st : Store} (hR : Rel s st) (hi : InvS s) {b : Bytes} (he : bucketExists s b = true) :
    MRef s False (deleteBucket s b) (step st (.deleteBucket b)) := by
  rcases bucket_cases hR hi b with ⟨hb, _⟩ | ⟨bk, objs, hb, ho, _, hinv, hkp, hrb⟩
  · simp [bucketExists, hb] at he
  · have hempty : hasTopEntries bk.tree = !objs.isEmpty := by
      rw [hasTopEntries_eq hinv, files_isEmpty_eq hkp hrb]
    simp only [FsB.deleteBucket, hb, step, ho, hempty]
    cases objs.isEmpty with
    | false => exact ⟨hi, Or.inl ⟨rfl, hR⟩⟩
    | true => exact ⟨invS_erase hi, Or.inl ⟨rfl, rel_erase hR⟩⟩

theorem putObject_rel (md5 : Bytes → Bytes) {s : FsS} {st : Store} (hR : Rel s st) (hi : InvS s) (b k : Bytes) (md : Meta) (body : Bytes) :
    MRef s True (putObject md5 s b k md body) (step st (.put b k body)) := by
  unfold putObject
  cases hk : keyPath k with
  | none => exact ⟨hi, Or.inr ⟨trivial, rfl, rfl⟩⟩
  | some p =>
    simp only [step]
    rcases bucket_cases hR hi b with ⟨hb, ho⟩ | ⟨bk, objs, hb, ho, hv, hinv, hkp, hrb⟩
    · rw [hb, ho]; exact ⟨hi, Or.inl ⟨rfl, hR⟩⟩
    · rw [hb, ho]
      simp only
      cases hp : put bk.tree p body with
      | none => exact ⟨hi, Or.inr ⟨trivial, rfl, rfl⟩⟩
      | some t' =>
        exact ⟨invS_insert hi hv ⟨put_inv bk.tree p body t' hinv hp, put_keyPaths hk hp hkp⟩,
          Or.inl ⟨rfl, rel_insert hR (put_rel hk hp hrb)⟩⟩

theorem putObject_ok (md5 : Bytes → Bytes) (s s' : FsS) (b k : Bytes) (md : Meta) (body : Bytes)
    (h : putObject md5 s b k md body = (s', .ok ())) :
    ∃ p bk t', keyPath k = some p ∧ SMap.find s.buckets b = some bk ∧ put bk.tree p body = some t' ∧
      s' = ⟨SMap.insert s.buckets b ⟨t', SMap.insert bk.mds k (mergedMeta md5 s b k md)⟩⟩ := by
  unfold putObject at h
  cases hk : keyPath k with
  | none => simp [hk] at h
  | some p =>
    cases hb : SMap.find s.buckets b with
    | none => simp [hk, hb] at h
    | some bk =>
      cases hp : put bk.tree p body with
      | none => simp [hk, hb, hp] at h
      | some t' =>
        simp only [hk, hb, hp, Prod.mk.injEq, and_true] at h
        exact ⟨p, bk, t', rfl, rfl, hp, h.symm⟩

theorem deleteIn_frame {bk bk' : Bkt} {k k' : Bytes} (h : deleteIn bk k = some bk') (hne : k ≠ k') :
    getKey bk'.tree k' = getKey bk.tree k' ∧ SMap.find bk'.mds k' = SMap.find bk.mds k' := by
  unfold deleteIn at h
  cases hk : keyPath k with
  | none => rw [hk] at h; cases h
  | some p =>
    rw [hk] at h
    simp only at h
    cases hd : isDir bk.tree p with
    | true => rw [hd] at h; cases h; exact ⟨rfl, rfl⟩
    | false =>
      rw [hd] at h
      cases h
      exact ⟨by rw [getKey_delete hk hd k', if_neg hne], SMap.find_erase_ne hne⟩

theorem deleteIn_rel {bk : Bkt} {objs : SMap Bytes} (k : Bytes) (hinv : Inv bk.tree) (hkp : KeyPaths bk.tree) (hR : Rb bk.tree objs) :
    (deleteIn bk k = none ∧ SMap.find objs k = none) ∨
    (∃ bk', deleteIn bk k = some bk' ∧ Inv bk'.tree ∧ KeyPaths bk'.tree ∧ Rb bk'.tree (SMap.erase objs k)) := by
  unfold deleteIn
  cases hk : keyPath k with
  | none => left; exact ⟨rfl, by rw [hR k, getKey_none hk]⟩
  | some p =>
    right
    cases hd : isDir bk.tree p with
    | true =>
      -- a directory is not an object: nothing happens, and the key reads as absent on both sides
      refine ⟨bk, by simp [hd], hinv, hkp, fun k' => ?_⟩
      rw [GFS.SMap.find_erase, hR k']
      split
      · next e => rw [← e, getKey_some hk, content_dir_none hinv hd]
      · rfl
    | false =>
      refine ⟨⟨delete bk.tree p, SMap.erase bk.mds k⟩, by simp [hd], delete_inv bk.tree p hinv,
        delete_keyPaths p hkp, fun k' => ?_⟩
      rw [GFS.SMap.find_erase, hR k', getKey_delete hk hd k']

theorem deleteObject_rel {s : FsS} {st : Store} (hR : Rel s st) (hi : InvS s) (b k : Bytes) :
    MRef s True (deleteObject s b k) (step st (.delete b k)) := by
  simp only [deleteObject, step, delKey]
  rcases bucket_cases hR hi b with ⟨hb, ho⟩ | ⟨bk, objs, hb, ho, hv, hinv, hkp, hrb⟩
  · rw [hb, ho]; exact ⟨hi, Or.inl ⟨rfl, hR⟩⟩
  · rw [hb, ho]
    simp only
    rcases deleteIn_rel k hinv hkp hrb with ⟨hn, _⟩ | ⟨bk', hs, g1, g2, g3⟩
    · rw [hn]; exact ⟨hi, Or.inr ⟨trivial, rfl, rfl⟩⟩
    · rw [hs]; exact ⟨invS_insert hi hv ⟨g1, g2⟩, Or.inl ⟨rfl, rel_insert hR g3⟩⟩

theorem foldDel_rel (ks : List Bytes) (bk : Bkt) (objs : SMap Bytes) (d f : List Bytes)
    (h1 : Inv bk.tree) (h2 : KeyPaths bk.tree) (h3 : Rb bk.tree objs) :
    let r := ks.foldl (fun (acc : Bkt × List Bytes × List Bytes) k =>
      match deleteIn acc.1 k with
      | none => (acc.1, acc.2.1, acc.2.2 ++ [k])
      | some bk' => (bk', acc.2.1 ++ [k], acc.2.2)) (bk, d, f)
    Inv r.1.tree ∧ KeyPaths r.1.tree ∧ Rb r.1.tree (ks.foldl (fun o k => SMap.erase o k) objs) :=
  Fold.foldl_rel (R := fun (acc : Bkt × List Bytes × List Bytes) o => Inv acc.1.tree ∧ KeyPaths acc.1.tree ∧ Rb acc.1.tree o)
    ks (bk, d, f) objs
    (fun acc o k _ h => by
      rcases deleteIn_rel k h.1 h.2.1 h.2.2 with ⟨hn, hf⟩ | ⟨bk', hs, g⟩
      · simp only [hn]
        rw [erase_absent hf]
        exact h
      · simp only [hs]
        exact g) ⟨h1, h2, h3⟩

theorem deleteMulti_rel {s : FsS} {st : Store} (hR : Rel s st) (hi : InvS s) (b : Bytes) (ks : List Bytes) :
    MRef s False (deleteMulti s b ks) (step st (.deleteMulti b ks)) := by
  simp only [deleteMulti, step]
  rcases bucket_cases hR hi b with ⟨hb, ho⟩ | ⟨bk, objs, hb, ho, hv, hinv, hkp, hrb⟩
  · rw [hb, ho]; exact ⟨hi, Or.inl ⟨rfl, hR⟩⟩
  · obtain ⟨f1, f2, f3⟩ := foldDel_rel ks bk objs [] [] hinv hkp hrb
    rw [hb, ho]
    simp only [SpecS.foldl_delKey ks hR.sorted.1 ho]
    exact ⟨invS_insert hi hv ⟨f1, f2⟩, Or.inl ⟨rfl, rel_insert hR f3⟩⟩

def Ref (s : FsS) (op : Op) (r : FsS × Res HOut) (q : Store × Ans) : Prop :=
  InvS r.1 ∧ ((ansOf r.2 = q.2 ∧ Rel r.1 q.1) ∨ (Refused op r.2 ∧ r.1 = s))

theorem lift_fst {α} (r : FsS × Res α) (f : α → HOut) : (lift r f).1 = r.1 := by
  obtain ⟨d, x⟩ := r
  cases x <;> rfl

theorem ansOf_lift {α} (r : FsS × Res α) (f : α → HOut) (hf : ∀ a, ansOf (.ok (f a)) = .ok) :
    ansOf (lift r f).2 = C02R.ansOf r.2 := by
  obtain ⟨d, x⟩ := r
  cases x with
  | ok a => exact hf a
  | err c | panic x => rfl

theorem lift_err {α} (r : FsS × Res α) (f : α → HOut) (c : ErrCode) (h : r.2 = .err c) : (lift r f).2 = .err c := by
  obtain ⟨d, x⟩ := r
  subst h
  rfl

theorem ref_lift {α} {s : FsS} {op : Op} {refusing : Prop} {r : FsS × Res α} {f : α → HOut} {q : Store × Ans}
    (hf : ∀ a, ansOf (.ok (f a)) = .ok) (hop : refusing → Refused op (.err .InvalidArgument))
    (h : MRef s refusing r q) : Ref s op (lift r f) q := by
  unfold Ref
  rw [lift_fst, ansOf_lift r f hf]
  refine ⟨h.1, h.2.imp id fun hr => ⟨?_, hr.2.2⟩⟩
  rw [lift_err r f _ hr.2.1]
  exact hop hr.1

theorem ref_withBucket {s : FsS} {st : Store} (hR : Rel s st) (hi : InvS s) {op : Op} {b : Bytes} {f : Unit → FsS × Res HOut}
    (hb : C02F.bucketOf op = some b) (h : bucketExists s b = true → Ref s op (f ()) (step st op)) :
    Ref s op (withBucket s b f) (step st op) := by
  unfold withBucket
  cases he : bucketExists s b with
  | true => exact h he
  | false =>
    have hn : SMap.find st b = none := by
      rw [bucketExists_rel hR hi b] at he
      exact Option.not_isSome_iff_eq_none.mp (by simp [he])
    rw [C02F.spec_absent _ op b hb hn]
    exact ⟨hi, Or.inl ⟨rfl, hR⟩⟩

theorem getObject_rel (md5 : Bytes → Bytes) {s : FsS} {st : Store} (hR : Rel s st) (hi : InvS s) (b k : Bytes) :
    ansOf (lift (s, getObject md5 s b k) fun o => HOut.object o).2 = (step st (.get b k)).2 ∧
    Rel (lift (s, getObject md5 s b k) fun o => HOut.object o).1 (step st (.get b k)).1 := by
  refine ⟨?_, by rw [lift_fst, SpecS.step_get_fst]; exact hR⟩
  unfold getObject
  simp only [step]
  rcases bucket_cases hR hi b with ⟨hb, ho⟩ | ⟨bk, objs, hb, ho, _, _, _, hrb⟩
  · rw [hb, ho]; rfl
  · rw [hb, ho]
    simp only
    rw [hrb k]
    cases getKey bk.tree k <;> rfl

theorem copyObject_ok (md5 : Bytes → Bytes) {s : FsS} {sb sk dstB dstK : Bytes} {md : Meta} {src : FObj} {q : Store × Ans}
    (h : getObject md5 s sb sk = .ok src) (hp : MRef s True (putObject md5 s dstB dstK md src.body) q) :
    MRef s True (copyObject md5 s sb sk dstB dstK md) q := by
  have e : (copyObject md5 s sb sk dstB dstK md).1 = (putObject md5 s dstB dstK md src.body).1 ∧
      C02R.ansOf (copyObject md5 s sb sk dstB dstK md).2 = C02R.ansOf (putObject md5 s dstB dstK md src.body).2 ∧
      ((copyObject md5 s sb sk dstB dstK md).2 = .err .InvalidArgument ↔
        (putObject md5 s dstB dstK md src.body).2 = .err .InvalidArgument) := by
    unfold copyObject
    rw [h]
    simp only
    cases putObject md5 s dstB dstK md src.body with
    | mk d r => cases r <;> simp [C02R.ansOf]
  unfold MRef
  rw [e.1, e.2.1, e.2.2]
  exact hp

/-- **fs_step**: one request on the multi-bucket file-system backend, in any store related to a
    reference store: it is answered exactly as the reference model answers it and the stores stay
    related — or it is a write/delete whose key the backend refuses (InvalidArgument) and nothing
    changes.  The well-formedness of every bucket's directory tree is kept either way. -/
theorem fs_step (md5 : Bytes → Bytes) (s : FsS) (st : Store) (op : Op) (hR : Rel s st) (hi : InvS s) (hop : OpOk op) :
    InvS (handle md5 s op).1 ∧
    ((ansOf (handle md5 s op).2 = (step st op).2 ∧ Rel (handle md5 s op).1 (step st op).1) ∨
     (Refused op (handle md5 s op).2 ∧ (handle md5 s op).1 = s)) := by
  cases op with
  | createBucket b =>
    have hv : validateBucketName b = true := hop
    simp only [handle, hv, Bool.not_true, Bool.false_eq_true, if_false]
    exact ref_lift (fun _ => rfl) False.elim (createBucket_rel hR hi hv)
  | headBucket b =>
    refine ref_withBucket hR hi rfl fun he => ?_
    rw [bucketExists_rel hR hi b] at he
    simp only [step, he, if_true]
    exact ⟨hi, Or.inl ⟨rfl, hR⟩⟩
  | deleteBucket b =>
    exact ref_withBucket hR hi rfl fun he => ref_lift (fun _ => rfl) False.elim (deleteBucket_rel hR hi he)
  | listBuckets => exact ⟨hi, Or.inl ⟨congrArg Ans.buckets (listBuckets_rel hR hi), hR⟩⟩
  | put b k body =>
    refine ref_withBucket hR hi rfl fun _ => ?_
    rw [if_neg (Nat.not_lt.mpr hop)]
    exact ref_lift (fun _ => rfl) (fun _ => ⟨rfl, trivial⟩) (putObject_rel md5 hR hi b k [] body)
  | get b k | head b k =>
    exact ref_withBucket hR hi rfl fun _ => ⟨by rw [lift_fst]; exact hi, Or.inl (getObject_rel md5 hR hi b k)⟩
  | delete b k =>
    exact ref_withBucket hR hi rfl fun _ => ref_lift (fun _ => rfl) (fun _ => ⟨rfl, trivial⟩) (deleteObject_rel hR hi b k)
  | deleteMulti b ks =>
    exact ref_withBucket hR hi rfl fun _ => ref_lift (fun _ => rfl) False.elim (deleteMulti_rel hR hi b ks)
  | copy sb sk dstB dstK =>
    refine ref_withBucket hR hi rfl fun he => ?_
    rw [if_neg (Nat.not_lt.mpr hop), SpecS.step_copy (bucketExists_rel hR hi dstB ▸ he),
      ← (getObject_rel md5 hR hi sb sk).1]
    cases hgo : getObject md5 s sb sk with
    | err c | panic x => exact ⟨hi, Or.inl ⟨rfl, hR⟩⟩
    | ok src =>
      exact ref_lift (q := step st (.put dstB dstK src.body)) (fun _ => rfl) (fun _ => ⟨rfl, trivial⟩)
        (copyObject_ok md5 hgo (putObject_rel md5 hR hi dstB dstK _ src.body))

def refusedB (op : Op) (r : Res HOut) : Bool :=
  decide (r = .err .InvalidArgument) && (match op with | .put .. | .copy .. | .delete .. => true | _ => false)

/-- the backend and the reference model side by side: a request the backend refuses is not
    shown to the reference model; the flag records that every other answer agreed so far -/
def lock (md5 : Bytes → Bytes) (acc : FsS × Store × Bool) (op : Op) : FsS × Store × Bool :=
  let r := handle md5 acc.1 op
  let q := step acc.2.1 op
  if ansOf r.2 = q.2 then (r.1, q.1, acc.2.2)
  else if refusedB op r.2 then (r.1, acc.2.1, acc.2.2)
  else (r.1, q.1, false)

theorem refusedB_of (op : Op) (r : Res HOut) (h : Refused op r) : refusedB op r = true := by
  obtain ⟨rfl, h⟩ := h
  cases op <;> first | exact h.elim | rfl

theorem lock_step (md5 : Bytes → Bytes) (s : FsS) (st : Store) (ok : Bool) (op : Op) (hR : Rel s st) (hi : InvS s) (hop : OpOk op) :
    (lock md5 (s, st, ok) op).2.2 = ok ∧ Rel (lock md5 (s, st, ok) op).1 (lock md5 (s, st, ok) op).2.1 ∧
    InvS (lock md5 (s, st, ok) op).1 := by
  obtain ⟨h1, ⟨ha, hrel⟩ | ⟨href, hs⟩⟩ := fs_step md5 s st op hR hi hop
  · have : lock md5 (s, st, ok) op = ((handle md5 s op).1, (step st op).1, ok) := if_pos ha
    rw [this]; exact ⟨rfl, hrel, h1⟩
  · have hne : ¬ ansOf (handle md5 s op).2 = (step st op).2 := by
      rw [href.1]; exact fun e => SpecS.step_ne_invalid st op e.symm
    have : lock md5 (s, st, ok) op = ((handle md5 s op).1, st, ok) :=
      (if_neg hne).trans (if_pos (refusedB_of _ _ href))
    rw [this, hs]; exact ⟨rfl, hR, hi⟩

/-- **fs_run_refines** (C02 for s3afero): along every finite request sequence from related stores
    (the empty ones in particular), every request the file-system backend does not refuse is
    answered exactly as the reference model of S3 answers it, a refused one changes nothing, and
    the stores stay related: every key of every bucket reads the same on both sides. -/
theorem fs_run_refines (md5 : Bytes → Bytes) (ops : List Op) : ∀ (s : FsS) (st : Store) (ok : Bool),
    Rel s st → InvS s → (∀ op ∈ ops, OpOk op) →
    (ops.foldl (lock md5) (s, st, ok)).2.2 = ok ∧
    Rel (ops.foldl (lock md5) (s, st, ok)).1 (ops.foldl (lock md5) (s, st, ok)).2.1 ∧
    InvS (ops.foldl (lock md5) (s, st, ok)).1 := fun s st ok hR hi hops =>
  Fold.foldl_inv (P := fun acc => acc.2.2 = ok ∧ Rel acc.1 acc.2.1 ∧ InvS acc.1) ops (s, st, ok)
    (fun acc op hop h => by
      obtain ⟨s, st, ok'⟩ := acc
      obtain ⟨rfl, hR, hi⟩ := h
      exact lock_step md5 s st ok' op hR hi (hops op hop)) ⟨rfl, hR, hi⟩

def b1 : Bytes := [98, 107, 49]   -- "bk1"
def kA : Bytes := [97]            -- "a"
def kAB : Bytes := [97, 47, 98]   -- "a/b"
/-! Non-vacuity: an object `a`, then `a/b` (refused: `a` is an object), a traversal key (refused),
    overwrite, copy, delete, an emptied bucket removed. -/
example : (([.createBucket b1, .put b1 kA [1], .put b1 kAB [2], .put b1 [46, 46, 47, 120] [3], .get b1 kAB,
      .copy b1 kA b1 [99], .delete b1 kA, .put b1 kAB [4], .get b1 kAB, .deleteBucket b1,
      .deleteMulti b1 [kAB, [99]], .deleteBucket b1, .listBuckets] : List Op).foldl (lock id) (FsS.empty, [], true)).2.2 = true := by
  decide +kernel
example : ((handle id (handle id (handle id FsS.empty (.createBucket b1)).1 (.put b1 kA [1])).1 (.put b1 kAB [2])).2
    = .err .InvalidArgument) := by decide +kernel

/-- the store a single-bucket backend starts with is related to the reference store that holds
    just that (empty) bucket, so `fs_step` / `fs_run_refines` speak about it as well -/
theorem single_init (name : Bytes) (hv : validateBucketName name = true) :
    InvS (FsB.Single.init name) ∧ Rel (FsB.Single.init name) [(name, [])] :=
  ⟨invS_insert invS_empty hv bkt_empty.1, rel_insert rel_empty bkt_empty.2⟩

theorem single_put_eq (md5 : Bytes → Bytes) (name : Bytes) (s : FsS) (k : Bytes) (md : Meta) (body : Bytes) :
    FsB.Single.putObject md5 name s name k md body = FsB.putObject md5 s name k md body := by
  simp [FsB.Single.putObject]

theorem single_get_eq (md5 : Bytes → Bytes) (name : Bytes) (s : FsS) (k : Bytes) :
    FsB.Single.getObject md5 name s name k = FsB.getObject md5 s name k := by
  simp [FsB.Single.getObject]

end GFS.Props.FsR
