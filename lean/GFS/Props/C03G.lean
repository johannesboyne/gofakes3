import GFS.Props.C03M
import GFS.Props.ListLoop
import GFS.Lemmas.ListLemmas
/-
  C03, grouping: the unpaginated listing WITH a delimiter.  Contents are exactly the live keys the
  specification lists as Contents, in stored order; CommonPrefixes are exactly the common prefixes
  the specification assigns to some live key, each reported once.
-/
namespace GFS.Props.C03G
open GFS.Model GFS.Spec.Listing GFS.Props.C03M GFS.Props.ListLoop

/-- the unpaginated loop, for every prefix/delimiter: Contents and CommonPrefixes as classified by
    `Match`; the "same as the last prefix" shortcut never changes the outcome -/
theorem listLoop_unpaged (p : Prefix) (objs : List (Key × Obj)) (cnt : Int) (last : Bytes) (acc : ObjectList)
    (hinv : ∀ q ∈ objs, q.2.data ≠ none) (hlast : last = [] ∨ last ∈ acc.prefixes)
    (hne : ∀ q ∈ objs, ∀ mp, p.match_ q.1 = some (true, mp) → mp ≠ []) :
    listLoop p 0 objs cnt last acc =
      .ok { acc with contents := acc.contents ++ contentsOf p objs, prefixes := addAll acc.prefixes (cpsOf p objs) } :=
  page_unlimited p objs cnt last acc hinv (hlast_of hlast hne)

/-- a live object: it has a current version that is not a delete marker -/
def live (q : Key × Obj) : Option Content :=
  match q.2.data with
  | some d => if d.marker then none else some ⟨q.1, d.body.length, d.hash⟩
  | none => none

theorem match_cp_iff (hasP : Bool) {d : UInt8} {pfx key : Bytes} (x : Bytes)
    (hp : pfx.head? ≠ some d) (hk : key.head? ≠ some d ∧ key.getLast? ≠ some d) :
    (⟨hasP, pfx, true, d⟩ : Prefix).match_ key = some (true, x) ↔ entryOf pfx (some d) key = some (.cprefix x) := by
  rw [match_eq_entryOf hasP d pfx key hp hk.1 hk.2, specD]
  rcases entryOf pfx (some d) key with _ | _ | _ <;> simp

theorem cp_ne_nil (hasP : Bool) {d : UInt8} {pfx : Bytes} {L : List (Key × Obj)}
    (hdom : ∀ q ∈ L, q.1.head? ≠ some d ∧ q.1.getLast? ≠ some d) (hp : pfx.head? ≠ some d) :
    ∀ q ∈ L, ∀ mp, (⟨hasP, pfx, true, d⟩ : Prefix).match_ q.1 = some (true, mp) → mp ≠ [] := by
  intro q hq mp h
  obtain ⟨seg, rfl, -⟩ := cprefix_iff.mp ((match_cp_iff hasP mp hp (hdom q hq)).mp h)
  simp

theorem liveMatch_spec {p : Prefix} {d : UInt8} {pfx : Bytes} {q : Key × Obj} (hm : p.match_ q.1 = specD d q.1 pfx) :
    liveMatch p q = match live q, entryOf pfx (some d) q.1 with
      | some c, some (.content k) => some (false, k, c)
      | some c, some (.cprefix x) => some (true, x, c)
      | _, _ => none := by
  rw [liveMatch, live, hm, specD]
  cases q.2.data with
  | none => rfl
  | some v =>
    dsimp only
    cases v.marker <;> rcases entryOf pfx (some d) q.1 with _ | _ | _ <;> rfl

/-- **list_delim_exact** (C03 with a delimiter, unpaginated; prefix and keys in the statement's
    domain): the listing is not truncated; its Contents are exactly the live keys the specification
    lists as Contents, in stored order with stored size and digest; its CommonPrefixes are exactly
    the values `prefix + segment up to and including the first delimiter` of the live keys with a
    delimiter after the prefix, each once; delete-marked keys contribute nothing. -/
theorem list_delim_exact (hasP : Bool) (d : UInt8) (pfx : Bytes) (objs : List (Key × Obj))
    (hinv : ∀ q ∈ objs, q.2.data ≠ none)
    (hdom : ∀ q ∈ objs, q.1.head? ≠ some d ∧ q.1.getLast? ≠ some d) (hp : pfx.head? ≠ some d) :
    ∃ r, listLoop ⟨hasP, pfx, true, d⟩ 0 objs 0 [] ⟨[], [], false, []⟩ = .ok r ∧ r.truncated = false ∧
      r.contents = objs.filterMap (fun q =>
        match live q, entryOf pfx (some d) q.1 with
        | some c, some (.content _) => some c
        | _, _ => none) ∧
      r.prefixes.Nodup ∧
      ∀ x, x ∈ r.prefixes ↔ ∃ q ∈ objs, (live q).isSome ∧ entryOf pfx (some d) q.1 = some (.cprefix x) := by
  have hm : ∀ q ∈ objs, liveMatch ⟨hasP, pfx, true, d⟩ q = _ :=
    fun q hq => liveMatch_spec (match_eq_entryOf hasP d pfx q.1 hp (hdom q hq).1 (hdom q hq).2)
  refine ⟨_, listLoop_unpaged _ objs 0 [] ⟨[], [], false, []⟩ hinv (Or.inl rfl) (cp_ne_nil hasP hdom hp), rfl, ?_,
    addAll_nil_nodup _, fun x => ?_⟩
  · apply List.filterMap_congr'
    intro q hq
    rw [hm q hq]
    cases live q <;> rcases entryOf pfx (some d) q.1 with _ | _ | _ <;> rfl
  · rw [mem_addAll_nil]
    simp only [cpsOf, List.mem_filterMap]
    refine exists_congr fun q => and_congr_right fun hq => ?_
    rw [hm q hq]
    cases live q <;> rcases entryOf pfx (some d) q.1 with _ | _ | _ <;> simp

/-! Non-vacuity: keys a/x, a/y (delete-marked), ab, b/z under delimiter '/' and prefix "a". -/
example : listLoop ⟨true, [97], true, 47⟩ 0
    [([97, 47, 120], ⟨some ⟨1, false, [1], [9], []⟩, []⟩), ([97, 47, 121], ⟨some ⟨2, true, [], [], []⟩, []⟩),
     ([97, 98], ⟨some ⟨3, false, [3, 3], [8], []⟩, []⟩), ([98, 47, 122], ⟨some ⟨4, false, [4], [7], []⟩, []⟩)]
    0 [] ⟨[], [], false, []⟩ = .ok ⟨[⟨[97, 98], 2, [8]⟩], [[97, 47]], false, []⟩ := by decide +kernel

end GFS.Props.C03G
