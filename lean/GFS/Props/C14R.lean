import GFS.Props.C06R
import GFS.Props.C14W
/-
  C14, ListParts against the specification's record.  Props/C14 / C14W relate the listing (and every paged
  walk) to `held parts 0`, the filled slots with their true numbers; here `held` is read through
  `C06R.PartsRel`, which relates the slots to the specification's record of the most recent body per part
  number: the parts listed are the recorded part numbers, each once, ascending, each with the size and
  digest of its MOST RECENT upload.  That every history of requests keeps `PartsRel` is
  `C06R.tracked_parts_exact`; the two are not composed into one statement here.
-/
namespace GFS.Props.C14R
open GFS.Model GFS.Model.Upl GFS.Props.C14 GFS.Props.C06R GFS.Props.C06F

theorem held_eq (parts : List (Option Part)) (n : Nat) :
    held parts n = (parts.zipIdx n).filterMap fun x => x.1.map fun p => ⟨x.2, p.body.length, p.hash⟩ := by
  induction parts generalizing n with
  | nil => rfl
  | cons x rest ih => cases x <;> simp [held, ih, List.zipIdx_cons]

/-- the held parts are exactly the filled slots, under their true numbers -/
theorem mem_held (parts : List (Option Part)) (n : Nat) (it : PartItem) :
    it ∈ held parts n ↔ ∃ j p, parts[j]? = some (some p) ∧ it = ⟨n + j, p.body.length, p.hash⟩ := by
  simp only [held_eq, List.mem_filterMap, List.mem_zipIdx_iff_le_and_getElem?_sub, Option.map_eq_some_iff, Prod.exists]
  constructor
  · rintro ⟨x, i, ⟨hn, hx⟩, p, rfl, rfl⟩
    exact ⟨i - n, p, hx, by rw [Nat.add_sub_cancel' hn]⟩
  · rintro ⟨j, p, hj, rfl⟩
    exact ⟨some p, n + j, ⟨Nat.le_add_right n j, by rw [Nat.add_sub_cancel_left]; exact hj⟩, p, rfl, rfl⟩

/-- **held_ascending**: the listed part numbers are strictly ascending — each part once -/
theorem held_ascending (parts : List (Option Part)) (n : Nat) : (held parts n).Pairwise (fun a b => a.number < b.number) := by
  rw [held_eq]
  -- the slot numbers of `zipIdx` ascend, and `filterMap` keeps the order
  have hz : (parts.zipIdx n).Pairwise (fun a b => a.2 < b.2) := by
    rw [← List.pairwise_map (f := Prod.snd) (R := (· < ·)), List.zipIdx_map_snd]
    exact List.pairwise_lt_range'
  refine hz.filterMap _ fun a b hab x hx y hy => ?_
  obtain ⟨_, _, rfl⟩ := Option.map_eq_some_iff.mp hx
  obtain ⟨_, _, rfl⟩ := Option.map_eq_some_iff.mp hy
  exact hab

/-- **parts_listing_is_history**: when the slots are related to the specification's record (every
    state an interleaving of requests reaches, `C06R.tracked_parts_exact`), a part number ≥ 1 is
    listed exactly when a body has been uploaded under it, with the length of the MOST RECENT such
    body as size and its MD5 as digest. -/
theorem parts_listing_is_history (md5 : Bytes → Bytes) (parts : List (Option Part)) (latest : List (Nat × Bytes))
    (h : PartsRel md5 parts latest) (it : PartItem) (hn : 1 ≤ it.number) :
    it ∈ held parts 0 ↔
      ∃ body, (latest.find? (·.1 == it.number)).map (·.2) = some body ∧ it.size = body.length ∧ it.hash = md5 body := by
  rw [mem_held, ← h.bodies it.number hn]
  constructor
  · rintro ⟨j, p, hj, rfl⟩
    have hs : slot parts j = some p := slot_eq_some.mpr hj
    exact ⟨p.body, by simp [hs], rfl, h.hashes j p hs⟩
  · rintro ⟨body, hb, hsz, hh⟩
    obtain ⟨p, hs, rfl⟩ := Option.map_eq_some_iff.mp hb
    refine ⟨it.number, p, slot_eq_some.mp hs, ?_⟩
    rw [h.hashes it.number p hs, ← hh, ← hsz, Nat.zero_add]

/-- the unpaginated ListParts of a pending upload is `held` (`C14W.listParts_walk_exact`: so is every paged walk
    of the listing loop over its slots) -/
theorem listParts_of_pending (u : Upl) (b : Bytes) (k : Key) (id : Nat) (m : MPU) (hp : pending u b k id = some m)
    (limit : Int) (hl : ((held m.parts 0).length : Int) ≤ limit) :
    u.listParts b k id 0 limit = .ok ⟨held m.parts 0, false, 0⟩ := by
  obtain ⟨bu, hg⟩ := pending_eq_some.mp hp
  rw [listParts_of_get hg, List.drop_zero, listParts_exact limit m.parts 0 0 [] (by omega), List.nil_append]

/-! Non-vacuity: parts 2, 1 and 2 again: the listing shows 1 and 2, part 2 with the size of its re-upload. -/
example : held (setPart (setPart (setPart [] 2 ⟨[7], [7]⟩) 1 ⟨[5, 5], [5, 5]⟩) 2 ⟨[8, 8, 8], [8, 8, 8]⟩) 0 =
    [⟨1, 2, [5, 5]⟩, ⟨2, 3, [8, 8, 8]⟩] := by decide +kernel

end GFS.Props.C14R
