import GFS.Props.C09F
import GFS.Model.FrontMp
import GFS.Lemmas.Uploader
import GFS.Props.C08P
/-
  C09 at handler level, multipart included: the whole modelled surface over the server state
  (store + multipart bookkeeping).
-/
namespace GFS.Props.C09M
open GFS.Model GFS.Props.C09 GFS.Props.C09F

inductive SReq where
  | plain (r : Req)
  | initiate (b : Bytes) (k : Key) (md : Meta)
  | uploadPart (b : Bytes) (k : Key) (id : Nat) (rq : PartReq)
  | complete (b : Bytes) (k : Key) (id : Nat) (listed : List (Int × Bytes))
  | abort (b : Bytes) (k : Key) (id : Nat)
  | listParts (b : Bytes) (k : Key) (id : Nat) (marker : Nat) (limit : Int)
  | listUploads (b : Bytes) (p : Prefix) (km : Bytes) (im : Option Nat) (limit : Int)

def isPanicR {α : Type} : Res α → Bool
  | .panic _ => true
  | _ => false

/-- (new state, did the handler panic) -/
def shandle (md5 : Bytes → Bytes) (cfg : Cfg) (ucfg : UploadCfg) (s : Srv) : SReq → Srv × Bool
  | .plain r => let a := handle md5 cfg s.mem r; (⟨a.1, s.upl⟩, match a.2 with | .panic _ => true | _ => false)
  | .initiate b k md => let a := Front.initiateUpload cfg s b k md; (a.1, isPanicR a.2)
  | .uploadPart b k id rq => let a := Front.uploadPartSrv md5 ucfg s b k id rq; (a.1, isPanicR a.2)
  | .complete b k id listed => let a := Front.completeUpload md5 s b k id listed; (a.1, isPanicR a.2)
  | .abort b k id => let a := Front.abortUpload s b k id; (a.1, isPanicR a.2)
  | .listParts b k id marker limit => let a := Front.listPartsReq cfg s b k id marker limit; (a.1, isPanicR a.2)
  | .listUploads b p km im limit => let a := Front.listUploadsReq cfg s b p km im limit; (a.1, isPanicR a.2)

theorem isPanicR_eq {α : Type} (r : Res α) : isPanicR r = r.isPanic := by
  cases r <;> rfl

/-- `CompleteMultipartUpload` keeps the store's invariant and does not panic -/
theorem complete_good (md5 : Bytes → Bytes) (u : Upl) (mem : Mem) (b : Bytes) (k : Key) (id : Nat) (listed : List (Int × Bytes))
    (h : C09.Inv mem) :
    C09.Inv (u.complete md5 mem b k id listed).2.1 ∧ (u.complete md5 mem b k id listed).2.2.isPanic = false := by
  rcases Upl.complete_cases md5 u mem b k id listed with ⟨bu, m, ps, mem', vid, _, _, hput, e⟩ | ⟨c, e⟩ <;> rw [e]
  · have hp := invB.put md5 h b k m.md (ps.map (·.body)).flatten trivial
    rw [hput] at hp
    exact ⟨hp, rfl⟩
  · exact ⟨h, rfl⟩

theorem shandle_good (md5 : Bytes → Bytes) (cfg : Cfg) (ucfg : UploadCfg) (s : Srv) (r : SReq) (h : C09.Inv s.mem) :
    C09.Inv (shandle md5 cfg ucfg s r).1.mem ∧ (shandle md5 cfg ucfg s r).2 = false := by
  cases r with
  | plain q =>
    obtain ⟨h1, h2⟩ := handle_good md5 cfg s.mem q h
    refine ⟨h1, ?_⟩
    simp only [shandle]
    cases ho : (handle md5 cfg s.mem q).2 with
    | panic p => exact absurd ho (h2 p)
    | _ => rfl
  | initiate b k md =>
    simp only [shandle, Front.initiateUpload]
    obtain ⟨m', h', e | ⟨c, e⟩⟩ := ensure_good cfg b h <;> rw [e] <;> exact ⟨h', rfl⟩
  | uploadPart b k id rq =>
    refine ⟨h, ?_⟩
    simp only [shandle, isPanicR_eq, Front.uploadPartSrv]
    rcases C08P.uploadPartReq_cases md5 ucfg s.upl b k id rq with ⟨_, _, _, _, e⟩ | ⟨_, e⟩ <;> rw [e] <;> rfl
  | complete b k id listed => exact (complete_good md5 s.upl s.mem b k id listed h).imp_right ((isPanicR_eq _).trans)
  | abort b k id => exact ⟨h, (isPanicR_eq _).trans (s.upl.abort_noPanic b k id)⟩
  | listParts b k id marker limit =>
    simp only [shandle, Front.listPartsReq]
    obtain ⟨m', h', e | ⟨c, e⟩⟩ := ensure_good cfg b h <;> rw [e]
    · exact ⟨h', (isPanicR_eq _).trans (s.upl.listParts_noPanic b k id marker limit)⟩
    · exact ⟨h', rfl⟩
  | listUploads b p km im limit =>
    simp only [shandle, Front.listUploadsReq]
    obtain ⟨m', h', e | ⟨c, e⟩⟩ := ensure_good cfg b h <;> rw [e]
    · exact ⟨h', (isPanicR_eq _).trans (s.upl.listUploads_noPanic b p km im limit)⟩
    · exact ⟨h', rfl⟩

def sserve (md5 : Bytes → Bytes) (cfg : Cfg) (ucfg : UploadCfg) (s : Srv) : List SReq → Srv × List Bool
  | [] => (s, [])
  | r :: rs => let a := shandle md5 cfg ucfg s r; let rest := sserve md5 cfg ucfg a.1 rs; (rest.1, a.2 :: rest.2)

/-- **server_never_panics**: every finite sequence of requests of the whole modelled surface —
    bucket, object, version, listing, versioning AND multipart requests (initiate, upload part with
    any part number / Content-Length / Content-MD5, complete with any part list, abort, list parts,
    list uploads) — with arbitrary parameters, in every configuration, from the empty server, is
    answered without a single panic, and the store invariant holds afterwards. -/
theorem server_never_panics (md5 : Bytes → Bytes) (cfg : Cfg) (ucfg : UploadCfg) (reqs : List SReq) :
    ∀ s : Srv, C09.Inv s.mem →
      C09.Inv (sserve md5 cfg ucfg s reqs).1.mem ∧ ∀ x ∈ (sserve md5 cfg ucfg s reqs).2, x = false :=
  Fold.run_inv (run := sserve md5 cfg ucfg) (I := fun s => C09.Inv s.mem) (fun _ => rfl) (fun _ _ _ => rfl) (shandle_good md5 cfg ucfg) reqs

example : (sserve id {} {} ⟨Mem.empty, Upl.empty⟩ [.plain (.createBucket [98, 107, 116]), .initiate [98, 107, 116] [107] [],
    .uploadPart [98, 107, 116] [107] 1 ⟨some 3, some [49], .absent, [7]⟩, .complete [98, 107, 116] [107] 1 [(3, [1]), (2, [])],
    .complete [98, 107, 116] [107] 9 [], .listParts [98, 107, 116] [107] 1 99 (-1), .abort [98, 107, 116] [107] 1,
    .plain (.getObject [98, 107, 116] [107] none false)]).2 = [false, false, false, false, false, false, false, false] := by decide +kernel

end GFS.Props.C09M
