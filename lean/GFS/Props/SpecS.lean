import GFS.Spec.S3
import GFS.Lemmas.SMapExt
/-
  The reference model Spec.S3 says what the statement of C02 says, clause by clause — so that the
  refinement theorems (C02R, C02F, BoltR, FsR, FsS1: "every backend answers as Spec.S3") mean what
  a reader of the property expects.  After the clauses: the equations for `step` those proofs use.
-/
namespace GFS.Props.SpecS
open GFS.Spec.S3

/-- "reads return the most recent acknowledged write" -/
theorem read_after_write (s : Store) (b k body : Bytes) (h : (SMap.find s b).isSome = true) :
    (step (step s (.put b k body)).1 (.get b k)).2 = .object body := by
  cases hf : SMap.find s b with
  | none => simp [hf] at h
  | some objs => simp [step, hf, SMap.find_insert_self]

/-- "deleted … keys answer NoSuchKey" and "deletes are idempotent" -/
theorem read_after_delete (s : Store) (b k : Bytes) (h : (SMap.find s b).isSome = true) :
    (step (step s (.delete b k)).1 (.get b k)).2 = .err .NoSuchKey ∧
    (step (step s (.delete b k)).1 (.delete b k)).2 = .ok ∧
    (step (step s (.delete b k)).1 (.delete b k)).1 = (step s (.delete b k)).1 := by
  cases hf : SMap.find s b with
  | none => simp [hf] at h
  | some objs =>
    simp only [step, hf, delKey, SMap.find_insert_self, SMap.find_erase_self]
    refine ⟨trivial, trivial, ?_⟩
    rw [SMapL.erase_absent (SMap.find_erase_self objs k), SMap.insert_insert]

/-- "never-written keys answer NoSuchKey" -/
theorem never_written (s : Store) (b k : Bytes) (objs : SMap Bytes) (h : SMap.find s b = some objs) (hk : SMap.find objs k = none) :
    (step s (.get b k)).2 = .err .NoSuchKey := by simp [step, h, hk]

/-- "operations on absent buckets answer NoSuchBucket" -/
theorem absent_bucket (s : Store) (b k body : Bytes) (ks : List Bytes) (h : SMap.find s b = none) :
    (step s (.get b k)).2 = .err .NoSuchBucket ∧ (step s (.put b k body)).2 = .err .NoSuchBucket ∧
    (step s (.delete b k)).2 = .err .NoSuchBucket ∧ (step s (.deleteMulti b ks)).2 = .err .NoSuchBucket ∧
    (step s (.headBucket b)).2 = .err .NoSuchBucket ∧ (step s (.deleteBucket b)).2 = .err .NoSuchBucket := by
  simp [step, h]

/-- "re-creating a bucket answers BucketAlreadyExists" -/
theorem recreate (s : Store) (b : Bytes) : (step (step s (.createBucket b)).1 (.createBucket b)).2 = .err .BucketAlreadyExists := by
  simp only [step]
  by_cases h : (SMap.find s b).isSome = true
  · simp [h]
  · simp [h, SMap.find_insert_self]

/-- "deleting a non-empty bucket answers BucketNotEmpty while a bucket whose objects have all been
    deleted can be deleted" -/
theorem delete_bucket_rule (s : Store) (b : Bytes) (objs : SMap Bytes) (h : SMap.find s b = some objs) :
    (step s (.deleteBucket b)).2 = if objs.isEmpty then .ok else .err .BucketNotEmpty := by
  simp only [step, h]
  split <;> rfl

/-- "a copy leaves the destination equal to the source and the source unchanged" -/
theorem copy_rule (s : Store) (sb sk db dk o : Bytes) (sobjs dobjs : SMap Bytes)
    (hs : SMap.find s sb = some sobjs) (hd : SMap.find s db = some dobjs) (ho : SMap.find sobjs sk = some o)
    (hne : sb ≠ db ∨ sk ≠ dk) :
    (step (step s (.copy sb sk db dk)).1 (.get db dk)).2 = .object o ∧
    (step (step s (.copy sb sk db dk)).1 (.get sb sk)).2 = .object o := by
  simp only [step, hs, hd, ho, SMap.find_insert_self]
  by_cases hb : db = sb
  · subst hb
    have hk : dk ≠ sk := by
      rcases hne with h | h
      · exact absurd rfl h
      · exact fun e => h e.symm
    rw [hs] at hd
    simp only [Option.some.injEq] at hd
    subst hd
    simp [SMap.find_insert_self, SMap.find_insert_ne hk, ho]
  · simp [SMap.find_insert_ne hb, hs, ho]

theorem step_delete_fst (s : Store) (b k : Bytes) : (step s (.delete b k)).1 = delKey s b k := by
  simp only [step, delKey]
  cases SMap.find s b <;> rfl

theorem step_get_fst (s : Store) (b k : Bytes) : (step s (.get b k)).1 = s := by
  simp only [step]
  split
  · rfl
  · split <;> rfl

theorem step_copy {s : Store} {sb sk db dk : Bytes} (h : (SMap.find s db).isSome = true) :
    step s (.copy sb sk db dk) = match (step s (.get sb sk)).2 with
      | .object o => step s (.put db dk o)
      | a => (s, a) := by
  simp only [step]
  cases hd : SMap.find s db with
  | none => simp [hd] at h
  | some dobjs =>
    cases SMap.find s sb with
    | none => rfl
    | some sobjs =>
      simp only
      cases SMap.find sobjs sk <;> rfl

theorem foldl_delKey {b : Bytes} (ks : List Bytes) {st : Store} {objs : SMap Bytes}
    (hs : SMap.Sorted st) (hf : SMap.find st b = some objs) :
    ks.foldl (fun acc k => delKey acc b k) st = SMap.insert st b (ks.foldl (fun o k => SMap.erase o k) objs) := by
  induction ks generalizing st objs with
  | nil => exact (SMap.insert_of_find hs hf).symm
  | cons k ks ih =>
    have hd : delKey st b k = SMap.insert st b (SMap.erase objs k) := by simp only [delKey, hf]
    rw [List.foldl_cons, List.foldl_cons, hd,
      ih (SMap.sorted_insert hs) (SMap.find_insert_self _ _ _), SMap.insert_insert]

/-- what the fs backend refuses a key with: where it does, it cannot be answering as the reference model -/
theorem step_ne_invalid (st : Store) (op : Op) : (step st op).2 ≠ .err .InvalidArgument := by
  cases op <;> simp only [step] <;> (repeat' split) <;> simp

end GFS.Props.SpecS

/- What follows speaks of `Spec.S3` and `Res` only and serves the refinement proof of every backend; it
   keeps the names it has in the statements of C02R and C02F. -/
namespace GFS.Props.C02R
open GFS.Spec.S3

def ansOf {α} : Res α → Ans
  | .ok _ => .ok
  | .err c => .err c
  | .panic _ => .err .Internal

end GFS.Props.C02R

namespace GFS.Props.C02F
open GFS.Spec.S3

/-- the bucket `ensureBucketExists` is called on -/
def bucketOf : Op → Option Bytes
  | .createBucket _ => none
  | .listBuckets => none
  | .headBucket b | .deleteBucket b | .put b _ _ | .get b _ | .head b _ | .delete b _ | .deleteMulti b _ => some b
  | .copy _ _ db _ => some db

theorem spec_absent (s : Store) (op : Op) (b : Bytes) (hb : bucketOf op = some b) (h : SMap.find s b = none) :
    step s op = (s, .err .NoSuchBucket) := by
  cases op <;> cases hb <;> simp [step, h]

end GFS.Props.C02F
