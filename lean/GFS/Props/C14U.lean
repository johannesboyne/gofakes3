import GFS.Lemmas.Uploader
import GFS.Props.ListLoop
/-
  C14, ListMultipartUploads without paging: exactly the pending uploads of the matching keys, by
  key and then by initiation, each once; grouped keys reported as common prefixes, each once.
-/
namespace GFS.Props.C14U
open GFS.Model GFS.Model.Upl GFS.Props.C03G

def uploadsOfKey (p : Prefix) (q : Key × List Nat) : List UploadItem :=
  match p.match_ q.1 with
  | some (false, _) => q.2.map (fun i => ⟨q.1, i⟩)
  | _ => []

def prefixOfKey (p : Prefix) (q : Key × List Nat) : Option Bytes :=
  match p.match_ q.1 with
  | some (true, mp) => some mp
  | _ => none

def total (p : Prefix) (entries : List (Key × List Nat)) : Nat := (entries.flatMap (uploadsOfKey p)).length

/-- the inner loop over one key's ids takes them all (limit not reached) or stops at the limit with at
    least one taken; what it took, what is left and the markers it sets: the case distinction of the
    unpaginated listing and of `C14P.page` alike -/
theorem take_split (L : Int) (k : Key) (is : List Nat) (cnt : Int) (acc : UploadList) (hc : cnt < L) :
    ∃ tk rs, is = tk ++ rs ∧
      ((cnt + tk.length < L ∧ rs = [] ∧ listUploadsLoop.take L k is cnt acc =
          ({ acc with uploads := acc.uploads ++ tk.map (fun i => ⟨k, i⟩) }, cnt + tk.length, false)) ∨
       (cnt + tk.length = L ∧ tk ≠ [] ∧ listUploadsLoop.take L k is cnt acc =
          (match rs with
           | [] => { acc with uploads := acc.uploads ++ tk.map (fun i => ⟨k, i⟩) }
           | j :: _ => { acc with uploads := acc.uploads ++ tk.map (fun i => ⟨k, i⟩), truncated := true, nextKey := k, nextId := some j },
           L, true))) := by
  induction is generalizing cnt acc with
  | nil => exact ⟨[], [], rfl, Or.inl ⟨by simpa using hc, rfl, by simp [listUploadsLoop.take]⟩⟩
  | cons i more ih =>
    unfold listUploadsLoop.take
    by_cases h : cnt + 1 ≥ L
    · rw [if_pos h]
      obtain rfl : cnt + 1 = L := by omega
      exact ⟨[i], more, rfl, Or.inr ⟨rfl, by simp, by cases more <;> rfl⟩⟩
    · rw [if_neg h]
      obtain ⟨tk, rs, e, hh⟩ := ih (cnt + 1) { acc with uploads := acc.uploads ++ [⟨k, i⟩] } (by omega)
      have hl : cnt + ((i :: tk).length : Int) = cnt + 1 + tk.length := by rw [List.length_cons]; omega
      refine ⟨i :: tk, rs, by rw [e]; rfl, hh.imp ?_ ?_⟩
      · rintro ⟨a1, a2, a3⟩
        exact ⟨hl ▸ a1, a2, by rw [a3, hl]; simp⟩
      · rintro ⟨a1, a2, a3⟩
        exact ⟨hl ▸ a1, by simp, by rw [a3]; cases rs <;> simp⟩

theorem total_cons (p : Prefix) (q : Key × List Nat) (rest : List (Key × List Nat)) :
    total p (q :: rest) = (uploadsOfKey p q).length + total p rest := by
  simp [total]

theorem listUploadsLoop_unpaged (p : Prefix) (limit : Int) (entries : List (Key × List Nat)) (cnt : Int) (acc : UploadList)
    (h : cnt + total p entries < limit) :
    listUploadsLoop p limit entries none cnt acc =
      { acc with uploads := acc.uploads ++ entries.flatMap (uploadsOfKey p),
                 prefixes := addAll acc.prefixes (entries.filterMap (prefixOfKey p)) } := by
  induction entries generalizing cnt acc with
  | nil => rw [List.flatMap_nil, List.append_nil]; rfl
  | cons q rest ih =>
    obtain ⟨k, ids⟩ := q
    rw [total_cons] at h
    rw [List.flatMap_cons, List.filterMap_cons]
    cases hm : p.match_ k with
    | none =>
      simp only [listUploadsLoop, uploadsOfKey, prefixOfKey, hm] at h ⊢
      rw [ih cnt acc (by simpa using h), List.nil_append]
    | some r =>
      obtain ⟨cp, mp⟩ := r
      cases cp with
      | true =>
        simp only [listUploadsLoop, uploadsOfKey, prefixOfKey, hm, Bool.false_eq_true, if_false, if_true] at h ⊢
        rw [ih cnt _ (by simpa using h), List.nil_append, addAll_cons]
        cases acc.prefixes.contains mp <;> rfl
      | false =>
        simp only [uploadsOfKey, prefixOfKey, hm, List.length_map] at h ⊢
        -- the limit is out of reach, so the inner loop takes the whole key
        obtain ⟨tk, rs, e, ⟨_, rfl, a3⟩ | ⟨a1, _, _⟩⟩ := take_split limit k ids cnt acc (by omega)
        · rw [List.append_nil] at e
          subst e
          simp only [listUploadsLoop, hm, Bool.false_eq_true, if_false, a3]
          rw [ih (cnt + ids.length) _ (by omega), List.append_assoc]
        · have := congrArg List.length e
          simp only [List.length_append] at this
          omega

/-- **listUploads_exact**: listing without marker and with a limit above the number of matching
    uploads answers, not truncated, with exactly the upload ids the index holds for each matching key —
    keys and ids in the order of the index (which a reachable state keeps ascending by key, `C14I.IB`, and
    within a key in initiation order, `create_appends`) — and each common prefix once. -/
theorem listUploads_exact (u : Upl) (b : Bytes) (bu : BUps) (hb : SMap.find u.buckets b = some bu) (p : Prefix) (limit : Int)
    (h : total p bu.index < limit) :
    u.listUploads b p [] none limit =
      .ok ⟨bu.index.flatMap (uploadsOfKey p), addAll [] (bu.index.filterMap (prefixOfKey p)), false, [], none⟩ := by
  unfold listUploads
  simp only [hb, List.isEmpty_nil, if_true]
  rw [listUploadsLoop_unpaged p limit bu.index 0 _ (by simpa using h)]
  simp

/-- initiating an upload appends its id after the ids the key already has: within a key the index
    is in initiation order -/
theorem create_appends (bu : BUps) (m : MPU) :
    SMap.find (bu.add m).index m.key = some ((SMap.find bu.index m.key).getD [] ++ [m.id]) :=
  SMap.find_insert_self ..

/-- completing or aborting an upload removes exactly its id from its key's list (`BUps.index_remove`: and leaves
    the lists of the other keys alone) -/
theorem remove_filters (bu : BUps) (m : MPU) :
    (SMap.find (bu.remove m).index m.key).getD [] = ((SMap.find bu.index m.key).getD []).filter (fun i => !(i == m.id)) := by
  rw [BUps.index_remove, if_pos rfl]

example : (Upl.listUploads ⟨[([98], ⟨[], [([97], [1, 3]), ([100, 47, 120], [2])]⟩)], 3⟩ [98] ⟨false, [], true, 47⟩ [] none 1000) =
    .ok ⟨[⟨[97], 1⟩, ⟨[97], 3⟩], [[100, 47]], false, [], none⟩ := by decide +kernel

end GFS.Props.C14U
