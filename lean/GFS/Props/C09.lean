import GFS.Generated.Facts
import GFS.Lemmas.MemOps
import GFS.Lemmas.ResLemmas
import GFS.Props.ListLoop
/-
  C09 — every request gets a well-formed answer; no panic, no wedged state.
  (1) the status table re-read from error.go is consistent; (2) the representation invariant
  "every stored object has a current version" is preserved by every mutating operation of the
  backend model (this is what the repair of D4 established) and (3) under it no read or listing
  operation of the model can reach a nil dereference.
-/
namespace GFS.Props.C09
open GFS.Model

/-! ### error answers carry a status consistent with their code -/

/-- **error_status_wellformed**: every error code declared in error.go is answered with a
    status in {304} ∪ [400,599] (the table is regenerated from the source on every run; the
    table is the quantifier) -/
theorem error_status_wellformed :
    ∀ p ∈ GFS.Generated.statusTable, p.2 = 304 ∨ (400 ≤ p.2 ∧ p.2 ≤ 599) := by
  decide +kernel

theorem default_status_wellformed : 400 ≤ GFS.Generated.statusDefault ∧ GFS.Generated.statusDefault ≤ 599 := by
  decide

/-- the codes the model's handlers can answer with are all in the table -/
theorem model_codes_in_table :
    ∀ c ∈ ErrCode.all, (GFS.Generated.statusTable.find? (fun p => p.1 == c.name)).isSome = true := by
  decide +kernel

def InvB (bk : Bucket) : Prop := ∀ p ∈ bk.objects, p.2.data ≠ none
def Inv (m : Mem) : Prop := ∀ q ∈ m.buckets, InvB q.2

theorem put_inv (bk : Bucket) (k : Key) (item : Ver) (h : InvB bk) : InvB (bk.put k item) := by
  rw [Bucket.put_eq]; exact Bucket.storeObj_all h fun _ => Option.some_ne_none item

/-- the invariant is kept by every step of a bucket, hence (`BucketInv.put` … `BucketInv.deleteMultiVersions`)
    by every mutating operation of the backend model: no request sequence leaves an object without
    a current version -/
theorem invB : BucketInv (fun _ => InvB) (fun _ => True) where
  mono _ h := h
  fresh _ := nofun
  setV _ h := h
  bput k item _ _ h := put_inv _ k item h
  held _ _ _ _ := trivial
  store _ o h ho :=
    ⟨Bucket.storeObj_all h fun hg hd => hg (Obj.dropCurrent_gone hd),
     fun _ => Bucket.storeObj_all h fun _ => h (_, o) (SMap.find_some_mem ho)⟩

theorem rm_inv (bk : Bucket) (k : Key) (id : Nat) (h : InvB bk) : InvB (bk.rm k id).1 := by
  rw [Bucket.rm_eq]
  cases ho : SMap.find bk.objects k with
  | none => exact h
  | some o =>
    simp only
    split
    · exact put_inv bk k _ h
    · exact (invB.store (N := 0) k o h ho).1

/-- **rmVersion_inv** (the repaired D4): deleting any version — the current one included, while
    older ones remain — leaves every object of the bucket with a current version -/
theorem rmVersion_inv (bk : Bucket) (k : Key) (vid : Nat) (h : InvB bk) : InvB (bk.rmVersion k vid).1 :=
  invB.rmVersion (N := 0) k vid h

theorem get_noPanic (m : Mem) (b : Bytes) (k : Key) (h : Inv m) : (m.get b k).isPanic = false :=
  Mem.get_noPanic fun hb ho => h _ (SMap.find_some_mem hb) _ (SMap.find_some_mem ho)

/-- **read_no_panic**: under the invariant neither GetObject nor HeadObject can dereference nil -/
theorem read_no_panic (m : Mem) (b : Bytes) (k : Key) (h : Inv m) : ∀ s, m.get b k ≠ .panic s :=
  Res.isPanic_eq_false.mp (get_noPanic m b k h)

/-- the loop of `ListBucket` ends with a listing when every object it visits has a current version
    (`ListLoop.listLoop_ok`), and the invariant says so of the objects after the marker -/
theorem listBucket_noPanic (m : Mem) (b : Bytes) (p : Prefix) (marker : Bytes) (mk : Int) (h : Inv m) :
    (m.listBucket b p marker mk).isPanic = false := by
  unfold Mem.listBucket
  cases hb : SMap.find m.buckets b with
  | none => rfl
  | some bk =>
    obtain ⟨r, hr⟩ := ListLoop.listLoop_ok p mk (afterMarker bk.objects marker) 0 [] ⟨[], [], false, []⟩ fun q hq => by
      refine h _ (SMap.find_some_mem hb) q ?_
      by_cases hm : marker = []
      · rwa [hm, ListLoop.afterMarker_nil] at hq
      · rw [ListLoop.afterMarker_of_ne _ hm] at hq; exact (List.mem_filter.mp hq).1
    simp only [hr]; rfl

/-- **listBucket_no_panic**: under the invariant no listing (any prefix, delimiter, marker, page size)
    can dereference nil -/
theorem listBucket_no_panic (m : Mem) (b : Bytes) (p : Prefix) (marker : Bytes) (mk : Int) (h : Inv m) :
    ∀ s, m.listBucket b p marker mk ≠ .panic s :=
  Res.isPanic_eq_false.mp (listBucket_noPanic m b p marker mk h)

/-! Non-vacuity: the invariant holds of a store with an uploaded object. -/
example : Inv (Mem.put id (Mem.createBucket Mem.empty [98]).1 [98] [107] [] [1]).1 :=
  invB.putCommit id (invB.createBucket invB.empty _) _ _ _ _ trivial

end GFS.Props.C09
