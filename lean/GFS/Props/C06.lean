import GFS.Lemmas.Uploader
/-
  C06 — completing a multipart upload stores exactly the listed parts, once, or nothing.
  Theorems about the uploader state machine (uploader.go), parametric in the digest.
-/
namespace GFS.Props.C06
open GFS.Model GFS.Model.Upl

/-- re-uploading a part number overwrites exactly that slot -/
theorem setPart_self (parts : List (Option Part)) (n : Nat) (p : Part) :
    (setPart parts n p)[n]? = some (some p) := by
  unfold setPart
  refine List.getElem?_set_self ?_
  split
  · rw [List.length_append, List.length_replicate]; omega
  · omega

theorem setPart_other (parts : List (Option Part)) (n i : Nat) (p : Part) (h : i ≠ n) (hi : i < parts.length) :
    (setPart parts n p)[i]? = parts[i]? := by
  unfold setPart
  split
  · rw [List.getElem?_set_ne (Ne.symm h)]
    rw [List.getElem?_append_left hi]
  · rw [List.getElem?_set_ne (Ne.symm h)]

/-- **complete_rejects_unchanged**: a complete request answered with an error (unknown upload, list
    longer than the slots or out of order, a part below 1 or never uploaded, a wrong or stale ETag)
    leaves the stored objects and the pending uploads exactly as they were. -/
theorem complete_rejects_unchanged (md5 : Bytes → Bytes) (u : Upl) (mem : Mem) (b : Bytes) (k : Key) (id : Nat)
    (listed : List (Int × Bytes)) (c : ErrCode)
    (h : (complete md5 u mem b k id listed).2.2 = .err c) :
    (complete md5 u mem b k id listed).1 = u ∧ (complete md5 u mem b k id listed).2.1 = mem := by
  rcases complete_cases md5 u mem b k id listed with ⟨bu, m, ps, mem', vid, _, _, _, e⟩ | ⟨_, e⟩
  · rw [e] at h; cases h
  · rw [e]; exact ⟨rfl, rfl⟩

/-- a list that fits the slot table and has a descending pair is rejected as out of order, before
    any part is looked at -/
theorem validate_rejects_descending (m : MPU) (listed : List (Int × Bytes))
    (hlen : listed.length ≤ m.parts.length) (hd : sortedInts (listed.map (·.1)) = false) :
    validate m listed = .err .InvalidPartOrder := by
  unfold validate
  have : ¬ listed.length > m.parts.length := by omega
  simp [this, hd]

theorem checkParts_cons_ok (parts : List (Option Part)) (n : Int) (etag : Bytes) (rest : List (Int × Bytes)) (ps : List Part) :
    checkParts parts ((n, etag) :: rest) = .ok ps ↔
      ∃ p ps', ps = p :: ps' ∧ 1 ≤ n ∧ parts[n.toNat]? = some (some p) ∧
        trimQuotes etag = Bytes.hexLower p.hash ∧ checkParts parts rest = .ok ps' := by
  rw [checkParts]
  constructor
  · intro h
    obtain ⟨hlt, h⟩ := Res.ite_err_eq_ok.mp h
    split at h
    · rename_i p hp
      obtain ⟨he, h⟩ := Res.ite_err_eq_ok.mp h
      cases hr : checkParts parts rest with
      | ok ps' => rw [hr] at h; cases h; exact ⟨p, ps', rfl, by omega, hp, by simpa using he, rfl⟩
      | _ => rw [hr] at h; cases h
    · cases h
  · rintro ⟨p, ps', rfl, hn, hp, he, hr⟩
    have hlt : ¬ (n < 1 ∨ n ≥ (parts.length : Int)) := by
      have := (List.getElem?_eq_some_iff.mp hp).1
      omega
    simp [hlt, hp, he, hr]

/-- the parts `checkParts` returns are exactly the ones stored under the listed numbers, in
    the listed order, and every listed ETag matches the stored part (quotes ignored) -/
theorem checkParts_spec (parts : List (Option Part)) (listed : List (Int × Bytes)) (ps : List Part)
    (h : checkParts parts listed = .ok ps) :
    ps.length = listed.length ∧
    ∀ i (hi : i < listed.length), 1 ≤ (listed[i]).1 ∧
      ∃ p, parts[(listed[i]).1.toNat]? = some (some p) ∧ ps[i]? = some p ∧
        trimQuotes (listed[i]).2 = Bytes.hexLower p.hash := by
  induction listed generalizing ps with
  | nil =>
    cases h
    exact ⟨rfl, nofun⟩
  | cons e rest ih =>
    obtain ⟨p, ps', rfl, hn, hp, he, hr⟩ := (checkParts_cons_ok parts e.1 e.2 rest ps).mp h
    obtain ⟨hl, hall⟩ := ih ps' hr
    refine ⟨by simp [hl], fun i hi => ?_⟩
    cases i with
    | zero => exact ⟨hn, p, hp, rfl, he⟩
    | succ j => exact hall j (Nat.lt_of_succ_lt_succ hi)

/-- **complete_ok**: when a complete request is acknowledged, the object body handed to the
    backend is exactly the concatenation of the stored bodies of the listed parts in the listed
    order, the ETag is hex(md5(md5(p1)…md5(pn))) "-" n, the metadata is the initiation metadata,
    and the upload is removed from the bookkeeping. -/
theorem complete_ok (md5 : Bytes → Bytes) (u : Upl) (mem : Mem) (b : Bytes) (k : Key) (id : Nat)
    (listed : List (Int × Bytes)) (vid : Option Nat) (etag : Bytes)
    (h : (complete md5 u mem b k id listed).2.2 = .ok (vid, etag)) :
    ∃ bu m ps, u.get b k id = .ok (bu, m) ∧ validate m listed = .ok ps ∧
      etag = mpEtag md5 ps ∧
      (complete md5 u mem b k id listed).2.1 = (mem.put md5 b k m.md (ps.map (·.body)).flatten).1 ∧
      (complete md5 u mem b k id listed).1.buckets = SMap.insert u.buckets b (bu.remove m) := by
  rcases complete_cases md5 u mem b k id listed with ⟨bu, m, ps, mem', vid', hg, hv, hput, e⟩ | ⟨_, e⟩
  · rw [e] at h ⊢
    cases h
    exact ⟨bu, m, ps, hg, hv, rfl, (congrArg Prod.fst hput).symm, rfl⟩
  · rw [e] at h; cases h

/-- an accepted list passed `checkParts` (so `checkParts_spec` describes the stored body) -/
theorem validate_ok_checkParts (m : MPU) (listed : List (Int × Bytes)) (ps : List Part)
    (h : validate m listed = .ok ps) :
    checkParts m.parts listed = .ok ps ∧ sortedInts (listed.map (·.1)) = true := by
  unfold validate at h
  simp only [Res.ite_err_eq_ok] at h
  exact ⟨h.2.2, by simpa using h.2.1⟩

/-- after `remove` the bucket's upload table holds nothing under the id of the removed upload -/
theorem removed_is_gone (bu : BUps) (m : MPU) : (bu.remove m).find m.id = none := by
  rw [BUps.find_remove, if_pos rfl]

/-- **abort_discards**: abort takes the upload out of the bookkeeping of its bucket and cannot
    touch any object (it has no access to the store) -/
theorem abort_discards (u : Upl) (b : Bytes) (k : Key) (id : Nat) (h : (u.abort b k id).2 = .ok ()) :
    ∃ bu m, u.get b k id = .ok (bu, m) ∧
      (u.abort b k id).1.buckets = SMap.insert u.buckets b (bu.remove m) ∧ (bu.remove m).find m.id = none := by
  rcases abort_cases u b k id with ⟨bu, m, hg, e⟩ | ⟨_, e⟩ <;> rw [e] at h ⊢
  · exact ⟨bu, m, hg, rfl, removed_is_gone bu m⟩
  · cases h

/-! Non-vacuity: a fresh upload completed with the empty part list. -/
example : (complete id (Upl.create Upl.empty [98] [107] []).1 (Mem.createBucket Mem.empty [98]).1 [98] [107] 1 []).2.2
    = .ok (none, mpEtag id []) := by rfl

end GFS.Props.C06
