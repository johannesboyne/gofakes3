import GFS.Generated.HandlerFacts
/-
  C02 / C17 / C10: the order in which the request handlers of gofakes3.go consult the backend,
  checked against the source.  The modelled front end (Model/Front, Model/Bolt.handle,
  Model/FsBackend.handle) serves every bucket-addressed request as `withBucket b fun _ => …`: the
  ADDRESSED bucket first (created under auto-bucket, after validating its name), then the backend.
  `GFS.Generated.handlerTrace` is re-extracted from /repo on every run (go/ast): per handler the calls of
  ensureBucketExists, ValidateBucketName and through g.storage / g.versioned / g.uploader, in source order.
-/
namespace GFS.Props.C02Gen
open GFS.Generated

abbrev HEv := String × String × Nat

def htrace (name : String) : List HEv := (handlerTrace.lookup name).getD []

/-- the handlers addressed to a bucket, with the name of their bucket parameter -/
def bucketHandlers : List (String × String) :=
  [("listBucket", "bucketName"), ("getBucketLocation", "bucketName"), ("listBucketVersions", "bucketName"),
   ("deleteBucket", "bucket"), ("headBucket", "bucket"), ("getObject", "bucket"), ("headObject", "bucket"),
   ("createObjectBrowserUpload", "bucket"), ("createObject", "bucket"), ("copyObject", "bucket"),
   ("deleteObject", "bucket"), ("deleteObjectVersion", "bucket"), ("deleteMulti", "bucket"),
   ("initiateMultipartUpload", "bucket"), ("listMultipartUploads", "bucket"), ("listMultipartUploadParts", "bucket"),
   ("getBucketVersioning", "bucket"), ("putBucketVersioning", "bucket")]

/-- **bucket_checked_first**: every bucket-addressed handler begins — unconditionally, at nesting
    depth 0 — with `ensureBucketExists` of the bucket it is addressed to, before any call of the
    backend or the uploader; and that is its only such call (a copy does not create or require
    its SOURCE bucket through it: an absent source bucket is the backend's NoSuchBucket). -/
theorem bucket_checked_first :
    bucketHandlers.all (fun p => (htrace p.1).head? == some ("ensure", p.2, 0) &&
      ((htrace p.1).filter (·.1 == "ensure")).length == 1) = true := by decide +kernel

/-- **create_validates_first**: CreateBucket validates the name and then creates — nothing else;
    and `ensureBucketExists` asks the backend first and, only inside its auto-bucket branch,
    validates before it creates. -/
theorem create_validates_first :
    htrace "createBucket" = [("validate", "", 0), ("storage", "CreateBucket", 0)] ∧
    htrace "ensureBucketExists" = [("storage", "BucketExists", 0), ("validate", "", 1), ("storage", "CreateBucket", 1)] := by
  decide +kernel

/-- **uploads_addressed_by_id**: the three handlers that address a pending upload by its id go
    straight to the uploader, whose `getUnlocked` checks bucket, key and id together -/
theorem uploads_addressed_by_id :
    htrace "putMultipartUploadPart" = [("uploader", "UploadPart", 0)] ∧
    htrace "abortMultipartUpload" = [("uploader", "AbortMultipartUpload", 0)] ∧
    htrace "completeMultipartUpload" = [("uploader", "CompleteMultipartUpload", 0)] := by decide +kernel

/-- **write_paths**: an upload (PUT and browser form) reaches the backend through exactly one
    PutObject; a copy heads the source and then calls the backend's CopyObject; a delete is one
    DeleteObject; nothing writes twice. -/
theorem write_paths :
    htrace "createObject" = [("ensure", "bucket", 0), ("storage", "PutObject", 0)] ∧
    htrace "createObjectBrowserUpload" = [("ensure", "bucket", 0), ("storage", "PutObject", 0)] ∧
    htrace "copyObject" = [("ensure", "bucket", 0), ("storage", "HeadObject", 0), ("storage", "CopyObject", 0)] ∧
    htrace "deleteObject" = [("ensure", "bucket", 0), ("storage", "DeleteObject", 0)] ∧
    htrace "deleteBucket" = [("ensure", "bucket", 0), ("storage", "DeleteBucket", 0)] := by decide +kernel

end GFS.Props.C02Gen
