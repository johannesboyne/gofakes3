import GFS.Props.C03
import GFS.Lemmas.Order
import GFS.Lemmas.MemOps
import GFS.Lemmas.Walk
/-
  C04, the walk: following the marker the server hands back visits every live matching key
  exactly once, in order, and terminates — for every bucket content and page size.  The walk is
  treated once for every prefix/delimiter (`walk_from`), under two conditions: objects grouped
  under the same common prefix are contiguous (`Sep`), and no common prefix is the empty string
  (`hne`; the loop's "same as the last prefix" test starts from `""`).  Without a delimiter there
  are no common prefixes and both hold trivially (`walk_plain_exact`); with one they are what
  Props/C04D proves of a sorted bucket on the statement's domain.
-/
namespace GFS.Props.C04W
open GFS.Model GFS.Props.C03 GFS.Props.C03G GFS.Props.C04D GFS.Props.ListLoop

/-- one page of the undelimited listing: either everything that is left fits, or the page ends
    exactly at the object that fills it and names that object's key as the next marker -/
theorem page_plain (pfx : Bytes) (mk : Int) (hmk : 1 ≤ mk) (objs : List (Key × Obj)) (cnt : Int) (last : Bytes)
    (acc : ObjectList) (hc : cnt < mk) (hinv : ∀ p ∈ objs, p.2.data ≠ none) :
    ((shown pfx objs).length < (mk - cnt).toNat ∧
      listLoop (plain pfx) mk objs cnt last acc = .ok { acc with contents := acc.contents ++ shown pfx objs }) ∨
    (∃ l1 k o l2 c, objs = l1 ++ (k, o) :: l2 ∧ shown pfx [(k, o)] = [c] ∧
      (shown pfx l1).length + 1 = (mk - cnt).toNat ∧
      listLoop (plain pfx) mk objs cnt last acc =
        .ok ⟨acc.contents ++ shown pfx l1 ++ [c], acc.prefixes, !l2.isEmpty, k⟩) := by
  rcases page (plain pfx) mk objs cnt last acc (Or.inr hc) hinv (by simp [cpsOf_plain]) with
    ⟨hn, h⟩ | ⟨l1, k, o, l2, cp, mp, c, t, n, h1, h2, h3, _, h4, h5, h⟩
  · left
    rw [contentsOf_plain] at hn
    refine ⟨by omega, ?_⟩
    rw [h, canon, cpsOf_plain, contentsOf_plain]; rfl
  · right
    have hcp : cp = false := (match_plain pfx k).2 _ (liveMatch_match h2)
    subst hcp
    cases h3
    rw [cpsOf_plain, contentsOf_plain] at h5
    rw [contentsOf_plain] at h4
    have hc1 : shown pfx [(k, o)] = [c] := by rw [← contentsOf_plain, contentsOf_cons, h2]; rfl
    refine ⟨l1, k, o, l2, c, h1, hc1, by simp at h5; omega, ?_⟩
    have hsh : shown pfx (l1 ++ [(k, o)]) = shown pfx l1 ++ [c] := hc1 ▸ List.filterMap_append
    rw [h, canon, cpsOf_plain, contentsOf_plain, hsh, List.append_assoc]; rfl

/-- `Seek(marker)` + "skip the marker itself" on a sorted bucket: exactly the objects after it -/
theorem afterMarker_split (l1 l2 : List (Key × Obj)) (k : Key) (o : Obj) (hk : k ≠ [])
    (hs : SMap.Sorted (l1 ++ (k, o) :: l2)) : afterMarker (l1 ++ (k, o) :: l2) k = l2 := by
  rw [afterMarker_of_ne _ hk]
  exact SMap.filter_after_key hs

theorem afterMarker_cov {all pre l1 cov l3 : List (Key × Obj)} {k : Key} {o : Obj}
    (hall : all = pre ++ (l1 ++ (k, o) :: (cov ++ l3))) (hs : SMap.Sorted all)
    (hk : ∀ q ∈ all, q.1 ≠ []) :
    afterMarker all (((cov.map (·.1)).getLast?).getD k) = l3 := by
  -- the marker is the key of the last of `(k, o) :: cov`
  obtain ⟨ini, ⟨kn, on⟩, e⟩ : ∃ ini q, (k, o) :: cov = ini ++ [q] :=
    ⟨_, _, (List.dropLast_concat_getLast (List.cons_ne_nil _ _)).symm⟩
  have hl : ((cov.map (·.1)).getLast?).getD k = kn := by
    simpa [List.getLast?_cons] using congrArg (fun l => (l.map (·.1)).getLast?) e
  have e' : all = (pre ++ l1 ++ ini) ++ (kn, on) :: l3 := by
    rw [hall, ← List.cons_append, e]; simp [List.append_assoc]
  rw [hl, e']
  exact afterMarker_split _ _ kn on (hk (kn, on) (by rw [e']; simp)) (e' ▸ hs)

/-- the client's walk: ask for a page, continue from the marker the server handed back while it
    says the listing is truncated (`fuel` bounds the number of requests) -/
def walk (m : Mem) (b : Bytes) (p : Prefix) (mk : Int) : Nat → Bytes → List ObjectList
  | 0, _ => []
  | n + 1, marker =>
    match m.listBucket b p marker mk with
    | .ok r => if r.truncated then r :: walk m b p mk n r.next else [r]
    | _ => []

/-- an object lying between two objects grouped under `x` is grouped under `x` -/
def Sep (p : Prefix) (L : List (Key × Obj)) : Prop :=
  ∀ l1 q l2, L = l1 ++ q :: l2 → ∀ x, (∃ qa ∈ l1, p.match_ qa.1 = some (true, x)) →
    (∃ qb ∈ l2, p.match_ qb.1 = some (true, x)) → p.match_ q.1 = some (true, x)

theorem sep_suffix (p : Prefix) (pre L : List (Key × Obj)) (h : Sep p (pre ++ L)) : Sep p L := by
  intro l1 q l2 hL x ⟨qa, ha, hma⟩ hb
  exact h (pre ++ l1) q l2 (by rw [hL, List.append_assoc]) x ⟨qa, List.mem_append_right _ ha, hma⟩ hb

/-- `cov`: the objects the walk-ahead passed after `(k, o)` (none after a Contents entry) -/
theorem pageEnd_resume {p : Prefix} {k : Key} {l2 : List (Key × Obj)} {cp : Bool} {mp : Bytes}
    {t : Bool} {n : Bytes} (h : PageEnd p k l2 cp mp t n) (hinv : ∀ q ∈ l2, q.2.data ≠ none) :
    ∃ cov l3, l2 = cov ++ l3 ∧ (∀ q ∈ cov, cp = true ∧ p.match_ q.1 = some (true, mp)) ∧
      (∀ q, cp = true → l3.head? = some q → p.match_ q.1 ≠ some (true, mp)) ∧
      t = !l3.isEmpty ∧ n = ((cov.map (·.1)).getLast?).getD k := by
  cases h with
  | content mp => exact ⟨[], l2, rfl, List.forall_mem_nil _, fun _ h => Bool.noConfusion h, rfl, rfl⟩
  | cprefix mp nm more hsk =>
    obtain ⟨cov, l3, h1, h2, h3, h4⟩ := skipCovered_spec p mp l2 hinv k
    rw [hsk] at h4
    simp only [Res.ok.injEq, Prod.mk.injEq] at h4
    exact ⟨cov, l3, h1, fun q hq => ⟨rfl, h2 q hq⟩, fun q _ => h3 q, h4.2, h4.1⟩

theorem next_disjoint (p : Prefix) (l1 cov l3 : List (Key × Obj)) (k : Key) (o : Obj) (cp : Bool) (mp : Bytes) (c : Content)
    (hsep : Sep p (l1 ++ (k, o) :: (cov ++ l3))) (hl : liveMatch p (k, o) = some (cp, mp, c))
    (hhead : ∀ q, cp = true → l3.head? = some q → p.match_ q.1 ≠ some (true, mp)) :
    ∀ x ∈ cpsOf p l3, x ∉ cpsOf p (l1 ++ [(k, o)]) := by
  intro x hx hin
  obtain ⟨qa, hqa, hma⟩ := mem_cpsOf hin
  obtain ⟨qb, hqb, hmb⟩ := mem_cpsOf hx
  -- then `(k, o)` itself is grouped under `x`
  have hkx : p.match_ k = some (true, x) := by
    rcases List.mem_append.mp hqa with h1 | h1
    · exact hsep l1 (k, o) (cov ++ l3) rfl x ⟨qa, h1, hma⟩ ⟨qb, List.mem_append_right _ hqb, hmb⟩
    · rw [List.mem_singleton.mp h1] at hma; exact hma
  rw [liveMatch_match hl] at hkx
  obtain ⟨rfl, rfl⟩ := hkx
  cases l3 with
  | nil => cases hqb
  | cons h3 t3 =>
    have hh := hhead h3 rfl rfl
    rcases List.mem_cons.mp hqb with e | e
    · subst e; exact hh hmb
    · exact hh (hsep (l1 ++ (k, o) :: cov) h3 t3 (by simp [List.append_assoc]) mp
        ⟨(k, o), by simp, liveMatch_match hl⟩ ⟨qb, e, hmb⟩)

theorem walk_step (m : Mem) (b : Bytes) (bk : Bucket) (hb : SMap.find m.buckets b = some bk)
    (p : Prefix) (mk : Int) (hmk : 1 ≤ mk)
    (hsorted : SMap.Sorted bk.objects) (hinv : ∀ q ∈ bk.objects, q.2.data ≠ none ∧ q.1 ≠ [])
    (hne : ∀ q ∈ bk.objects, ∀ mp, p.match_ q.1 = some (true, mp) → mp ≠ []) (hsep : Sep p bk.objects)
    (rest : List (Key × Obj)) (marker : Bytes) (hafter : afterMarker bk.objects marker = rest) :
    ∃ r, (∀ n, walk m b p mk (n + 1) marker = if r.truncated then r :: walk m b p mk n r.next else [r]) ∧
      ((r.truncated = false ∧ contentsOf p rest = r.contents ∧ addAll [] (cpsOf p rest) = r.prefixes) ∨
       (r.truncated = true ∧ ∃ rest', afterMarker bk.objects r.next = rest' ∧ rest'.length < rest.length ∧
          contentsOf p rest = r.contents ++ contentsOf p rest' ∧
          addAll [] (cpsOf p rest) = r.prefixes ++ addAll [] (cpsOf p rest'))) := by
  -- what follows a marker in a sorted bucket is a suffix of it
  obtain ⟨pre, hsplit⟩ : ∃ pre, bk.objects = pre ++ rest := by
    rw [← hafter]
    by_cases hm : marker = []
    · exact ⟨[], by rw [hm, afterMarker_nil, List.nil_append]⟩
    · rw [afterMarker_of_ne _ hm]; exact SMap.filter_lt_suffix marker bk.objects hsorted
  have hmemr : ∀ q ∈ rest, q ∈ bk.objects := fun q hq => by rw [hsplit]; exact List.mem_append_right _ hq
  have hinvr : ∀ q ∈ rest, q.2.data ≠ none := fun q hq => (hinv q (hmemr q hq)).1
  have hw : ∀ r, listLoop p mk rest 0 [] ⟨[], [], false, []⟩ = .ok r →
      ∀ n, walk m b p mk (n + 1) marker = if r.truncated then r :: walk m b p mk n r.next else [r] := by
    intro r hr n; simp only [walk, Mem.listBucket, hb, hafter, hr]
  rcases page p mk rest 0 [] ⟨[], [], false, []⟩ (Or.inr (by omega)) hinvr
      (hlast_of (.inl rfl) fun q hq => hne q (hmemr q hq)) with
    ⟨_, hres⟩ | ⟨l1, k, o, l2, cp, mp, c, t, nx, hobjs, hlm, hend, _, _, _, hres⟩
  · exact ⟨_, hw _ hres, Or.inl ⟨rfl, by simp [canon], by simp [canon]⟩⟩
  · obtain ⟨cov, l3, hl2, hcov, hhead, rfl, rfl⟩ := pageEnd_resume hend (fun q hq => hinvr q (by rw [hobjs]; simp [hq]))
    have hrest : rest = (l1 ++ [(k, o)]) ++ (cov ++ l3) := by rw [hobjs, hl2]; simp [List.append_assoc]
    have hall : bk.objects = pre ++ (l1 ++ (k, o) :: (cov ++ l3)) := by rw [hsplit, hobjs, hl2]
    -- the objects passed after `(k, o)` add nothing
    have hcovC : contentsOf p cov = [] := by
      simp only [contentsOf, List.filterMap_eq_nil_iff]
      intro q hq
      rcases hl : liveMatch p q with _ | ⟨cp', mp', c'⟩
      · rfl
      · have := liveMatch_match hl
        rw [(hcov q hq).2] at this
        simp only [Option.some.injEq, Prod.mk.injEq] at this
        rw [← this.1]
    have hcovP : ∀ x ∈ cpsOf p cov, x ∈ addAll [] (cpsOf p (l1 ++ [(k, o)])) := by
      intro x hx
      obtain ⟨q, hq, hm⟩ := mem_cpsOf hx
      obtain ⟨rfl, hq'⟩ := hcov q hq
      rw [hq'] at hm
      simp only [Option.some.injEq, Prod.mk.injEq, true_and] at hm
      subst hm
      rw [mem_addAll_nil, cpsOf_append, cpsOf_cons, hlm]
      simp
    have hcont : contentsOf p rest = contentsOf p (l1 ++ [(k, o)]) ++ contentsOf p l3 := by
      rw [hrest, contentsOf_append, contentsOf_append (a := cov), hcovC, List.nil_append]
    -- this is where the order of the bucket enters: what is left shares no common prefix with the page
    have hpre : addAll [] (cpsOf p rest) = addAll [] (cpsOf p (l1 ++ [(k, o)])) ++ addAll [] (cpsOf p l3) := by
      rw [hrest, cpsOf_append, cpsOf_append (a := cov), addAll_append, addAll_append, addAll_noop hcovP]
      have hdisj := next_disjoint p l1 cov l3 k o cp mp c
        (by rw [← hl2, ← hobjs]; exact sep_suffix p pre rest (hsplit ▸ hsep)) hlm hhead
      simpa using addAll_disjoint (cpsOf p l3) (addAll [] (cpsOf p (l1 ++ [(k, o)]))) []
        (fun x hx h => hdisj x hx ((mem_addAll_nil _ x).mp h))
    refine ⟨_, hw _ hres, ?_⟩
    cases l3 with
    | nil => left; exact ⟨rfl, by rw [hcont]; exact List.append_nil _, by rw [hpre]; exact List.append_nil _⟩
    | cons q qs =>
      right
      refine ⟨rfl, q :: qs, ?_, ?_, hcont, hpre⟩
      · exact afterMarker_cov hall hsorted (fun x hx => (hinv x hx).2)
      · rw [hrest]; simp; omega

theorem walk_from (m : Mem) (b : Bytes) (bk : Bucket) (hb : SMap.find m.buckets b = some bk)
    (p : Prefix) (mk : Int) (hmk : 1 ≤ mk)
    (hsorted : SMap.Sorted bk.objects) (hinv : ∀ q ∈ bk.objects, q.2.data ≠ none ∧ q.1 ≠ [])
    (hne : ∀ q ∈ bk.objects, ∀ mp, p.match_ q.1 = some (true, mp) → mp ≠ []) (hsep : Sep p bk.objects)
    (n : Nat) (rest : List (Key × Obj)) (marker : Bytes) (hI : afterMarker bk.objects marker = rest) (hn : rest.length < n) :
    (walk m b p mk n marker).flatMap (·.contents) = contentsOf p rest ∧
    (walk m b p mk n marker).flatMap (·.prefixes) = addAll [] (cpsOf p rest) ∧
    (walk m b p mk n marker).getLast?.map (·.truncated) = some false ∧
    (walk m b p mk n marker).length ≤ rest.length + 1 := by
  have step := walk_step m b bk hb p mk hmk hsorted hinv hne hsep
  -- `Walk.exact` follows one stream of items; a page carries two (Contents, CommonPrefixes), so it is
  -- used once for each, with the same walk, invariant and measure
  obtain ⟨c1, c2, _, c4⟩ := GFS.Walk.exact (walk m b p mk) (·.truncated) (·.next) (·.contents)
    (fun rest marker => afterMarker bk.objects marker = rest) (contentsOf p) List.length (fun _ => True)
    (fun g s hI => by
      obtain ⟨r, hw, h⟩ := step g s hI
      refine ⟨r, hw, trivial, ?_⟩
      rcases h with ⟨h1, h2, _⟩ | ⟨h1, g', h2, h3, h4, _⟩
      · exact Or.inl ⟨h1, h2⟩
      · exact Or.inr ⟨h1, g', h2, h3, h4⟩) n rest marker hI hn
  obtain ⟨p1, _, _, _⟩ := GFS.Walk.exact (walk m b p mk) (·.truncated) (·.next) (·.prefixes)
    (fun rest marker => afterMarker bk.objects marker = rest) (fun rest => addAll [] (cpsOf p rest)) List.length (fun _ => True)
    (fun g s hI => by
      obtain ⟨r, hw, h⟩ := step g s hI
      refine ⟨r, hw, trivial, ?_⟩
      rcases h with ⟨h1, _, h2⟩ | ⟨h1, g', h2, h3, _, h4⟩
      · exact Or.inl ⟨h1, h2⟩
      · exact Or.inr ⟨h1, g', h2, h3, h4⟩) n rest marker hI hn
  exact ⟨c1, p1, c2, c4⟩

/-- **walk_plain_exact** (C04, no delimiter): on every reachable bucket (sorted, every object with a
    current version and a non-empty key) the client's walk — follow the returned marker while
    IsTruncated — ends within objects + 1 requests on an untruncated page, and its pages concatenate
    to exactly the unpaginated listing: every live matching key once, ascending, none skipped. -/
theorem walk_plain_exact (m : Mem) (b : Bytes) (bk : Bucket) (hb : SMap.find m.buckets b = some bk)
    (hsorted : SMap.Sorted bk.objects) (hinv : ∀ p ∈ bk.objects, p.2.data ≠ none ∧ p.1 ≠ [])
    (pfx : Bytes) (mk : Int) (hmk : 1 ≤ mk) :
    let pages := walk m b (plain pfx) mk (bk.objects.length + 1) []
    pages.flatMap (·.contents) = shown pfx bk.objects ∧
    pages.getLast?.map (·.truncated) = some false ∧
    pages.length ≤ bk.objects.length + 1 ∧
    m.listBucket b (plain pfx) [] 0 = .ok ⟨shown pfx bk.objects, [], false, []⟩ := by
  have hsep : Sep (plain pfx) bk.objects := fun _ _ _ _ _ ⟨_, _, hma⟩ _ => absurd hma plain_ne_cp
  obtain ⟨g1, _, g3, g4⟩ := walk_from m b bk hb (plain pfx) mk hmk hsorted hinv
    (fun _ _ _ hm => absurd hm plain_ne_cp) hsep (bk.objects.length + 1) bk.objects [] rfl (Nat.lt_succ_self _)
  exact ⟨by rw [g1, contentsOf_plain], g3, g4, listBucket_plain hb (fun q hq => (hinv q hq).1) pfx⟩

/-! The sortedness hypothesis is an invariant of the bucket operations: the empty bucket is
    sorted, and every operation is a `storeObj` (Lemmas/MemOps), which goes through the ordered
    `insert` or through `erase`. -/
theorem bput_sorted (bk : Bucket) (k : Key) (item : Ver) (h : SMap.Sorted bk.objects) :
    SMap.Sorted (bk.put k item).objects := by
  rw [Bucket.put_eq]; exact Bucket.storeObj_sorted _ _ h

theorem brm_sorted (bk : Bucket) (k : Key) (fresh : Nat) (h : SMap.Sorted bk.objects) :
    SMap.Sorted (bk.rm k fresh).1.objects := by
  rw [Bucket.rm_eq]
  split
  · exact h
  · split
    · exact bput_sorted _ _ _ h
    · exact Bucket.storeObj_sorted _ _ h

theorem brmVersion_sorted (bk : Bucket) (k : Key) (vid : Nat) (h : SMap.Sorted bk.objects) :
    SMap.Sorted (bk.rmVersion k vid).1.objects := by
  rw [Bucket.rmVersion_eq_old]; exact Bucket.storeObj_sorted _ _ h

/-! Non-vacuity: three keys, page size 1 and 2. -/
def exBk : Bucket := ⟨.none, [([97], ⟨some ⟨1, false, [1], [9], []⟩, []⟩), ([97, 98], ⟨some ⟨2, false, [2, 2], [8], []⟩, []⟩),
  ([98], ⟨some ⟨3, false, [3], [7], []⟩, []⟩)]⟩
def exM : Mem := ⟨[([120], exBk)], 3⟩
example : SMap.Sorted exBk.objects ∧ ∀ p ∈ exBk.objects, p.2.data ≠ none ∧ p.1 ≠ [] := by
  unfold SMap.Sorted; decide +kernel
example : ((walk exM [120] (plain [97]) 1 4 []).map (·.contents.map (·.key))) = [[[97]], [[97, 98]], []] := by decide +kernel

end GFS.Props.C04W
