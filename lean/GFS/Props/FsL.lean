import GFS.Props.FsR
import GFS.Props.BoltL
import GFS.Lemmas.ListLemmas
import GFS.Lemmas.KeyPath
/-
  C03 for the file-system backends, the Walk listing (`listWalk`: every object file matched against
  the prefix) against the reference bucket.  The ReadDir listing for delimiter '/' is Props/FsD.
-/
namespace GFS.Props.FsL
open GFS.Model GFS.Model.Fs GFS.Model.FsB GFS.SMapL GFS.Props.FsInv GFS.Props.FsR

theorem file_key {t : Tree} (hk : KeyPaths t) {f : Path × Bytes} (hf : f ∈ t.files) : keyPath (keyOf f.1) = some f.1 := by
  obtain ⟨k, hkk⟩ := hk f hf
  rw [keyOf, keyPath_join hkk]; exact hkk

theorem objMap_find (md5 : Bytes → Bytes) (bk : Bkt) (hi : Inv bk.tree) (hk : KeyPaths bk.tree) (k : Bytes) :
    SMap.find (objMap md5 bk) k = (getKey bk.tree k).map (fun body => Bolt.BVal.obj ⟨body, md5 body, []⟩) := by
  unfold objMap
  rw [SMap.find_foldl_insert (fun f : Path × Bytes => keyOf f.1) (fun f => Bolt.BVal.obj ⟨f.2, md5 f.2, []⟩), SMap.find_nil,
    Option.or_none]
  -- a file has key `k` exactly when `k`'s path is the file's, and there is one file per path
  have hkey : ∀ x ∈ bk.tree.files.reverse, keyOf x.1 = k ↔ keyPath k = some x.1 := fun x hx =>
    ⟨fun e => e ▸ file_key hk (List.mem_reverse.mp hx), keyPath_join⟩
  cases hkp : keyPath k with
  | none =>
    rw [getKey_none hkp, List.find?_eq_none.mpr fun x hx => by simp [hkey x hx, hkp]]
    rfl
  | some p =>
    have hfind : bk.tree.files.reverse.find? (fun f => keyOf f.1 == k) = bk.tree.files.find? (fun f => f.1 == p) := by
      rw [List.find?_congr' (q := fun f => f.1 == p) fun x hx => Bool.eq_iff_iff.mpr (by
          rw [beq_iff_eq, beq_iff_eq, hkey x hx, hkp, Option.some.injEq]; exact eq_comm),
        List.find?_reverse_of_unique _ _ fun x hx y hy h1 h2 =>
          file_ext hi hx hy ((beq_iff_eq.mp h1).trans (beq_iff_eq.mp h2).symm)]
    rw [getKey_some hkp, content, hfind, Option.map_map]
    rfl

theorem objMap_sorted (md5 : Bytes → Bytes) (bk : Bkt) : GFS.SMap.Sorted (objMap md5 bk) :=
  SMap.sorted_foldl_insert _ _ _ [] GFS.SMap.sorted_nil

theorem objMap_eq (md5 : Bytes → Bytes) (bk : Bkt) (objs : SMap Bytes) (hi : Inv bk.tree) (hk : KeyPaths bk.tree)
    (hR : Rb bk.tree objs) (hs : GFS.SMap.Sorted objs) :
    objMap md5 bk = mapV (fun body => Bolt.BVal.obj ⟨body, md5 body, []⟩) objs := by
  apply GFS.SMap.sorted_ext _ _ (objMap_sorted md5 bk) (GFS.SMap.sorted_mapV hs)
  intro k
  rw [find_mapV, objMap_find md5 bk hi hk k, hR k]

def bodyOf : Bolt.BVal → Bytes
  | .obj o => o.body
  | .bucketRec => []

/-- **objMap_abs**: the object files of a bucket, by key, ARE the reference bucket -/
theorem objMap_abs (md5 : Bytes → Bytes) (bk : Bkt) (objs : SMap Bytes) (hi : Inv bk.tree) (hk : KeyPaths bk.tree)
    (hR : Rb bk.tree objs) (hs : GFS.SMap.Sorted objs) : mapV bodyOf (objMap md5 bk) = objs := by
  rw [objMap_eq md5 bk objs hi hk hR hs, mapV_mapV]
  exact List.map_id' _

theorem mem_sortBytes (l : List Bytes) (x : Bytes) : x ∈ sortBytes l ↔ x ∈ l := by
  rw [sortBytes, SMap.mem_keys_iff, SMap.find_foldl_insert (fun x : Bytes => x) (fun _ => ()), SMap.find_nil,
    Option.or_none, Option.isSome_map, List.find?_isSome]
  simp

theorem sortBytes_sorted (l : List Bytes) : (sortBytes l).Pairwise (fun a b => Bytes.lt a b = true) :=
  List.pairwise_map.mpr (SMap.sorted_foldl_insert (fun x : Bytes => x) (fun _ => ()) l [] GFS.SMap.sorted_nil)

theorem sortBytes_nodup (l : List Bytes) : (sortBytes l).Nodup :=
  (sortBytes_sorted l).imp (fun {a b} h e => by subst e; simp [GFS.Bytes.lt_irrefl] at h)

open GFS.Props.BoltL GFS.Props.C03G GFS.Spec.Listing

/-- what the listing shows of an object of the reference bucket -/
def contentOf (md5 : Bytes → Bytes) (q : Bytes × Bytes) : Content := ⟨q.1, q.2.length, md5 q.2⟩

theorem embed_objMap (md5 : Bytes → Bytes) (bk : Bkt) (objs : SMap Bytes) (hi : Inv bk.tree) (hk : KeyPaths bk.tree)
    (hR : Rb bk.tree objs) (hs : GFS.SMap.Sorted objs) :
    embed (objMap md5 bk) = objs.map (fun q => (q.1, ⟨some ⟨0, false, q.2, md5 q.2, []⟩, []⟩)) := by
  rw [objMap_eq md5 bk objs hi hk hR hs]
  simp [embed, mapV, objOf]

/-- **fs_walk_plain_exact** (C03, Walk listing without delimiter): exactly the objects whose keys start
    with the prefix, ascending, each once, with size and MD5 of the stored bytes; never truncated. -/
theorem fs_walk_plain_exact (md5 : Bytes → Bytes) (bk : Bkt) (objs : SMap Bytes) (pfx : Bytes)
    (hi : Inv bk.tree) (hk : KeyPaths bk.tree) (hR : Rb bk.tree objs) (hs : GFS.SMap.Sorted objs) :
    listWalk md5 bk (GFS.Props.C03.plain pfx) =
      { contents := objs.filterMap (fun q => if Bytes.hasPrefix q.1 pfx then some (contentOf md5 q) else none),
        prefixes := [], truncated := false, next := [] } := by
  rw [listWalk, bolt_list_plain_exact, embed_objMap md5 bk objs hi hk hR hs, GFS.Props.C03.shown, List.filterMap_map]
  congr 1
  apply List.filterMap_congr'
  intro q _
  simp only [Function.comp_apply, Bool.not_false, Bool.and_true, contentOf]

/-- **fs_walk_delim_exact** (C03, Walk listing with a delimiter; prefix and keys do not start, keys
    do not end with it): Contents and CommonPrefixes are exactly the specification's, ascending, each
    once; never truncated.  Every delimiter `d`, '/' included (`FsD.fs_dir_exact` uses it there): that
    the backend answers '/' with the ReadDir listing is the dispatch, which only Driver/Api models. -/
theorem fs_walk_delim_exact (md5 : Bytes → Bytes) (bk : Bkt) (objs : SMap Bytes) (hasP : Bool) (d : UInt8) (pfx : Bytes)
    (hi : Inv bk.tree) (hk : KeyPaths bk.tree) (hR : Rb bk.tree objs) (hs : GFS.SMap.Sorted objs)
    (hdom : ∀ q ∈ objs, q.1.head? ≠ some d ∧ q.1.getLast? ≠ some d) (hp : pfx.head? ≠ some d) :
    let r := listWalk md5 bk ⟨hasP, pfx, true, d⟩
    r.truncated = false ∧
    r.contents = objs.filterMap (fun q =>
        match entryOf pfx (some d) q.1 with
        | some (.content _) => some (contentOf md5 q)
        | _ => none) ∧
    r.prefixes.Nodup ∧ r.prefixes.Pairwise (fun a b => Bytes.lt a b = true) ∧
    ∀ x, x ∈ r.prefixes ↔ ∃ q ∈ objs, entryOf pfx (some d) q.1 = some (.cprefix x) := by
  have hdom' : ∀ q ∈ objMap md5 bk, q.1.head? ≠ some d ∧ q.1.getLast? ≠ some d := by
    rw [objMap_eq md5 bk objs hi hk hR hs]
    exact List.forall_mem_map.mpr hdom
  obtain ⟨h1, h2, _, h4⟩ := bolt_list_delim_exact hasP d pfx (objMap md5 bk) hdom' hp
  rw [embed_objMap md5 bk objs hi hk hR hs] at h2 h4
  refine ⟨h1, ?_, sortBytes_nodup _, sortBytes_sorted _, fun x => ?_⟩
  · show (Bolt.listLoop ⟨hasP, pfx, true, d⟩ (objMap md5 bk) ⟨[], [], false, []⟩).contents = _
    rw [h2, List.filterMap_map]
    apply List.filterMap_congr'
    intro q _
    simp only [Function.comp]
    rcases entryOf pfx (some d) q.1 with _ | _ | _ <;> rfl
  · show x ∈ sortBytes _ ↔ _
    rw [mem_sortBytes, h4 x]
    constructor
    · rintro ⟨_, hq, _, he⟩
      obtain ⟨a, ha, rfl⟩ := List.mem_map.mp hq
      exact ⟨a, ha, he⟩
    · rintro ⟨a, ha, he⟩
      exact ⟨_, List.mem_map.mpr ⟨a, ha, rfl⟩, rfl, he⟩

end GFS.Props.FsL
