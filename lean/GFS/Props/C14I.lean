import GFS.Props.C14P
/-
  C14: the index invariant `Good` that the paging theorem (Props/C14P) assumes is kept by every
  operation of the uploader model: keys ascending and non-empty, every key with at least one
  pending upload id, no id twice, every id at most the counter.  The requests `Op`, `step` stand
  in Lemmas/Uploader, with `UplInv` (what add / set / remove keep, every request and run keeps).
-/
namespace GFS.Props.C14I
open GFS.Model GFS.Props.C14P

def IB (N : Nat) (bu : BUps) : Prop :=
  SMap.Sorted bu.index ∧ ∀ q ∈ bu.index, q.2 ≠ [] ∧ q.2.Nodup ∧ (∀ i ∈ q.2, i ≤ N) ∧ q.1 ≠ []

def UInv (u : Upl) : Prop := ∀ q ∈ u.buckets, IB u.nextId q.2

theorem IB_mono {N N' : Nat} (h : N ≤ N') {bu : BUps} (hb : IB N bu) : IB N' bu :=
  ⟨hb.1, fun q hq => ⟨(hb.2 q hq).1, (hb.2 q hq).2.1, fun i hi => Nat.le_trans ((hb.2 q hq).2.2.1 i hi) h, (hb.2 q hq).2.2.2⟩⟩

theorem IB_good {N : Nat} {bu : BUps} (h : IB N bu) : Good bu.index :=
  ⟨h.1, fun q hq => ⟨(h.2 q hq).1, (h.2 q hq).2.1⟩, fun q hq => (h.2 q hq).2.2.2⟩

theorem add_inv (N : Nat) (bu : BUps) (m : MPU) (h : IB N bu) (hid : N < m.id) (hk : m.key ≠ []) : IB m.id (bu.add m) := by
  refine ⟨SMap.sorted_insert h.1, ?_⟩
  intro q hq
  rcases SMapL.mem_insert hq with rfl | hq
  · cases hf : SMap.find bu.index m.key with
    | none => simp [hk]
    | some ids =>
      obtain ⟨_, h2, h3, _⟩ := h.2 (m.key, ids) (SMap.find_some_mem hf)
      refine ⟨by simp, ?_, ?_, hk⟩
      · rw [List.nodup_append]
        refine ⟨h2, by simp, ?_⟩
        rintro a ha _ hb rfl
        exact Nat.not_le.mpr hid (List.mem_singleton.mp hb ▸ h3 a ha)
      · intro i hi
        rcases List.mem_append.mp hi with hi | hi
        · exact Nat.le_trans (h3 i hi) (Nat.le_of_lt hid)
        · exact Nat.le_of_eq (List.mem_singleton.mp hi)
  · exact (IB_mono (Nat.le_of_lt hid) h).2 q hq

theorem remove_inv (N : Nat) (bu : BUps) (m : MPU) (h : IB N bu) : IB N (bu.remove m) := by
  unfold BUps.remove
  simp only
  split
  · exact ⟨SMap.sorted_erase h.1, fun q hq => h.2 q (SMapL.mem_erase hq)⟩
  · rename_i hne
    refine ⟨SMap.sorted_insert h.1, ?_⟩
    intro q hq
    rcases SMapL.mem_insert hq with rfl | hq
    · cases hf : SMap.find bu.index m.key with
      | none => simp [hf] at hne
      | some ids =>
        obtain ⟨_, h2, h3, h4⟩ := h.2 (m.key, ids) (SMap.find_some_mem hf)
        simp only [hf, Option.getD_some] at hne ⊢
        refine ⟨?_, h2.filter _, fun i hi => h3 i (List.mem_filter.mp hi).1, h4⟩
        intro he; rw [he] at hne; simp at hne
    · exact h.2 q hq

theorem set_inv (N : Nat) (bu : BUps) (m : MPU) (h : IB N bu) : IB N (bu.set m) := h

def OpKeysNE : Op → Prop
  | .initiate _ k _ => k ≠ []
  | _ => True

theorem OpKeysNE.admits {op : Op} (h : OpKeysNE op) : ∀ b k md, op = .initiate b k md → k ≠ [] := by
  rintro b k md rfl; exact h

theorem uinv : UplInv (fun _ => IB) (· ≠ []) UInv where
  find h hb := h _ (SMap.find_some_mem hb)
  insert h hN hb := SMapL.forall_mem_insert (fun q hq => IB_mono hN (h q hq)) _ hb
  fresh _ _ := ⟨SMap.sorted_nil, nofun⟩
  add k md hk h := add_inv _ _ ⟨_, _, k, md, []⟩ h (Nat.lt_succ_self _) hk
  set _ _ _ h := h
  remove _ _ h := remove_inv _ _ _ h

theorem step_inv (md5 : Bytes → Bytes) (s : Srv) (op : Op) (hop : OpKeysNE op) (h : UInv s.upl) : UInv (step md5 s op).upl :=
  uinv.step md5 h hop.admits

/-- **reachable_uploads_walk_exact**: in every server state reached from the empty one by
    initiating (under non-empty keys: `OpKeysNE`), uploading parts, aborting and completing uploads
    (with any changes of the store in between), for every bucket with multipart bookkeeping, every prefix and delimiter and every page
    size `L ≥ 1`: following the returned (NextKeyMarker, NextUploadIdMarker) visits exactly the
    uploads of the unpaginated listing, none skipped or repeated. -/
theorem reachable_uploads_walk_exact (md5 : Bytes → Bytes) (ops : List Op) (hops : ∀ op ∈ ops, OpKeysNE op)
    (b : Bytes) (bu : BUps) (hb : SMap.find (ops.foldl (step md5) ⟨Mem.empty, Upl.empty⟩).upl.buckets b = some bu)
    (p : Prefix) (L : Int) (hL : 1 ≤ L) :
    let u := (ops.foldl (step md5) ⟨Mem.empty, Upl.empty⟩).upl
    let pages := walk u b p L ((bu.index.flatMap (C14U.uploadsOfKey p)).length + 1) [] none
    pages.flatMap (·.uploads) = bu.index.flatMap (C14U.uploadsOfKey p) ∧
    pages.getLast?.map (·.truncated) = some false ∧
    ∀ r ∈ pages, (r.uploads.length : Int) ≤ L := by
  have hi := uinv.run md5 ops (s := ⟨Mem.empty, Upl.empty⟩) nofun fun op hop => (hops op hop).admits
  exact uploads_walk_exact _ b bu hb p L hL (IB_good (uinv.find hi hb))

end GFS.Props.C14I
