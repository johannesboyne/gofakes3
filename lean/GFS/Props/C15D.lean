import GFS.Model.FsDisk
import GFS.Lemmas.Fold
/-
  C15 on the disk-level model of the file-system backends (Model/FsDisk): what a server started
  on the storage reads back after acknowledged operations, and after an operation a kill cut at
  any of its file-system calls.

  A restart is the identity on `Disk`: the backend value holds no object state of its own (the
  cached mod-time resolution `r` is re-probed to the same value on the same file system).
-/
namespace GFS.Props.C15D
open GFS.Model GFS.Model.FsDisk

/-- the invariant: a record that agrees with the file carries the digest of the file's bytes -/
def Sound (md5 : Bytes → Bytes) (r : Nat) (s : Slot) : Prop :=
  ∀ f m, s.file = some f → s.mrec = some m → stale r f m = false → m.hash = md5 f.body

/-- a read never fails on a file that exists, whatever the record looks like (D22 repaired) -/
theorem load_ok_of_file (md5 : Bytes → Bytes) (r : Nat) (s : Slot) (f : FileSt) (h : s.file = some f) :
    ∃ o, (load md5 r s).2 = .ok o ∧ o.body = f.body := by
  unfold load; simp only [h]
  split
  · exact ⟨_, rfl, rfl⟩
  · exact ⟨_, rfl, rfl⟩

theorem load_none (md5 : Bytes → Bytes) (r : Nat) (s : Slot) (h : s.file = none) :
    (load md5 r s).2 = .err .NoSuchKey := by
  unfold load; simp [h]

/-- the abstraction: what a reader can see of a slot — the file's bytes and the record's headers
    (none without a record); the record's size, mod time and digest do not enter -/
def view (s : Slot) : Option (Bytes × Meta) :=
  s.file.map fun f => (f.body, (s.mrec.getD MetaRec.zero).md)

theorem load_spec (md5 : Bytes → Bytes) (r : Nat) (s : Slot) :
    view (load md5 r s).1 = view s ∧ (Sound md5 r s → Sound md5 r (load md5 r s).1) ∧
    (Sound md5 r s → (load md5 r s).2 =
      (view s).elim (.err .NoSuchKey) fun p => .ok ⟨p.1, md5 p.1, p.2⟩) := by
  unfold load view
  cases hf : s.file with
  | none => simp [hf]
  | some f =>
    dsimp only
    by_cases hst : stale r f (s.mrec.getD MetaRec.zero) = true
    · rw [if_pos hst]
      refine ⟨rfl, fun _ f' m' h1 h2 _ => ?_, fun _ => rfl⟩
      cases h1; cases h2; rfl
    · rw [if_neg hst]
      refine ⟨by simp [hf], fun h => h, fun h => ?_⟩
      cases hm : s.mrec with
      | none => rw [hm] at hst; exact absurd rfl hst  -- `MetaRec.zero` has no digest: stale
      | some m => simp [h f m hf hm (by simpa [hm] using hst)]

set_option linter.unusedVariables false in  -- `hmd5` is not needed
/-- **load_idem**: a read repairs the record once: reading again reports the same and changes
    nothing any more -/
theorem load_idem (md5 : Bytes → Bytes) (hmd5 : ∀ x, md5 x ≠ []) (r : Nat) (s : Slot) :
    load md5 r (load md5 r s).1 = ((load md5 r s).1, (load md5 r s).2) := by
  unfold load
  cases hf : s.file with
  | none => simp [hf]
  | some f =>
    by_cases hst : stale r f (s.mrec.getD MetaRec.zero) = true
    · -- a second repair would write the record the first one wrote
      simp only [hst, if_true, Option.getD_some]
      split <;> rfl
    · simp only [hst, Bool.false_eq_true, if_false, hf]

/-- an acknowledged upload reads back exactly, whatever the slot held before (a torn state
    included) and whatever the clock said: the record stores the size and mod time `Stat` reported
    for the very file it describes -/
theorem put_ack_read (md5 : Bytes → Bytes) (r now : Nat) (s : Slot) (body : Bytes) (md : Meta) :
    load md5 r (putCut md5 now s body md .done) = (putCut md5 now s body md .done, .ok ⟨body, md5 body, md⟩) := by
  simp [load, putCut, stale, List.isEmpty_iff]

theorem del_ack_read (md5 : Bytes → Bytes) (r : Nat) (s : Slot) :
    (load md5 r (delCut s .done)).2 = .err .NoSuchKey := by
  simp [load, delCut]

theorem slotOf_update (d : Disk) (k j : Bytes) (s : Slot) :
    slotOf (SMap.insert d k s) j = if j = k then s else slotOf d j := by
  simp only [slotOf, SMap.find_insert, eq_comm (a := k)]
  split <;> rfl

def DiskSound (md5 : Bytes → Bytes) (r : Nat) (d : Disk) : Prop := ∀ k, Sound md5 r (slotOf d k)

/-- the abstract content of the disk: per key the stored bytes and headers -/
def content (d : Disk) (k : Bytes) : Option (Bytes × Meta) := view (slotOf d k)

/-- the key-value semantics the statement of C15 calls "the same keys, bodies, sizes, ETags and
    metadata" -/
def specStep (c : Bytes → Option (Bytes × Meta)) : Op → Bytes → Option (Bytes × Meta)
  | .put k body md _ => fun j => if j = k then some (body, md) else c j
  | .del k => fun j => if j = k then none else c j
  | .get _ => c

theorem insert_sim (md5 : Bytes → Bytes) (r : Nat) (d : Disk) (h : DiskSound md5 r d) (k : Bytes) (s : Slot)
    (hs : Sound md5 r s) :
    DiskSound md5 r (SMap.insert d k s) ∧ content (SMap.insert d k s) = fun j => if j = k then view s else content d j := by
  refine ⟨fun j => ?_, funext fun j => ?_⟩
  · rw [slotOf_update]
    split
    · exact hs
    · exact h j
  · simp only [content, slotOf_update]
    split <;> rfl

theorem step_sim (md5 : Bytes → Bytes) (r : Nat) (d : Disk) (op : Op) (h : DiskSound md5 r d) :
    DiskSound md5 r (step md5 r d op) ∧ content (step md5 r d op) = specStep (content d) op := by
  cases op with
  | put k body md now => exact insert_sim md5 r d h k _ fun f m h1 h2 _ => by cases h1; cases h2; rfl
  | del k => exact insert_sim md5 r d h k _ fun f m h1 => by cases h1
  | get k =>
    obtain ⟨hv, hs, -⟩ := load_spec md5 r (slotOf d k)
    obtain ⟨h1, h2⟩ := insert_sim md5 r d h k _ (hs (h k))
    refine ⟨h1, h2.trans (funext fun j => ?_)⟩
    split
    · rename_i hj; rw [hv, hj]; rfl
    · rfl

theorem run_sim (md5 : Bytes → Bytes) (r : Nat) (ops : List Op) (d : Disk) (h : DiskSound md5 r d) :
    DiskSound md5 r (run md5 r d ops) ∧ content (run md5 r d ops) = ops.foldl specStep (content d) :=
  Fold.foldl_rel (R := fun d c => DiskSound md5 r d ∧ content d = c) ops d (content d)
    (fun d _ op _ hd => by
      obtain ⟨h1, h2⟩ := step_sim md5 r d op hd.1
      exact ⟨h1, by rw [h2, hd.2]⟩) ⟨h, rfl⟩

theorem read_of_content (md5 : Bytes → Bytes) (r : Nat) (d : Disk) (h : DiskSound md5 r d) (k : Bytes) :
    readKey md5 r d k = match content d k with
      | none => .err .NoSuchKey
      | some (body, md) => .ok ⟨body, md5 body, md⟩ := by
  rw [readKey, (load_spec md5 r _).2.2 (h k), content]
  cases view (slotOf d k) <;> rfl

set_option linter.unusedVariables false in  -- `hmd5` is not needed
/-- **acknowledged_history_survives**: after any history of acknowledged uploads, deletes and
    reads on an initially empty bucket, a server started on the storage reads every key as the
    key-value semantics of the history says: the last upload's bytes, their digest, its headers;
    NoSuchKey after a delete or for a key never written -/
theorem acknowledged_history_survives (md5 : Bytes → Bytes) (hmd5 : ∀ x, md5 x ≠ []) (r : Nat) (ops : List Op) (k : Bytes) :
    readKey md5 r (run md5 r [] ops) k =
      match ops.foldl specStep (fun _ => none) k with
      | none => .err .NoSuchKey
      | some (body, md) => .ok ⟨body, md5 body, md⟩ := by
  have h0 : DiskSound md5 r [] := fun k f m h1 => by simp [slotOf, Slot.absent] at h1
  obtain ⟨hs, hc⟩ := run_sim md5 r ops [] h0
  rw [read_of_content md5 r _ hs k, hc]
  rfl

/-- **crash_frame**: a kill in the middle of an operation on `k` leaves what every other key
    reads as untouched (every acknowledged write of another key is present and intact) -/
theorem crash_frame (md5 : Bytes → Bytes) (r : Nat) (d : Disk) (c : Cut) (j : Bytes) (h : c.key ≠ j) :
    readKey md5 r (crash md5 d c) j = readKey md5 r d j := by
  cases c with
  | put k body md now c | del k c => simp only [Cut.key] at h; simp [readKey, crash, slotOf_update, Ne.symm h]

/-- **crash_never_5xx**: on every disk, the one a kill at any call of any operation leaves included,
    a read of any key answers with an object or NoSuchKey — never an internal error, never a panic
    (the kill plays no role: `load` has no other outcome) -/
theorem crash_never_5xx (md5 : Bytes → Bytes) (r : Nat) (d : Disk) (c : Cut) (j : Bytes) :
    (∃ o, readKey md5 r (crash md5 d c) j = .ok o) ∨ readKey md5 r (crash md5 d c) j = .err .NoSuchKey := by
  cases hf : (slotOf (crash md5 d c) j).file with
  | none => exact Or.inr (load_none md5 r _ hf)
  | some f => obtain ⟨o, ho, _⟩ := load_ok_of_file md5 r _ f hf; exact Or.inl ⟨o, ho⟩

/-- **crash_delete_atomic**: a delete cut anywhere reads as not begun or as complete -/
theorem crash_delete_atomic (md5 : Bytes → Bytes) (r : Nat) (d : Disk) (k : Bytes) (c : DelCut) :
    readKey md5 r (crash md5 d (.del k c)) k = readKey md5 r d k ∨
    readKey md5 r (crash md5 d (.del k c)) k = .err .NoSuchKey := by
  cases c with
  | beforeRemove => left; simp [readKey, crash, slotOf_update, delCut]
  | afterRemove | done => right; simp [readKey, crash, slotOf_update, delCut, load]

/-- the old record is older than the cut write by more than the clock's resolution -/
def Fresh (r now : Nat) (s : Slot) : Prop := ∀ m, s.mrec = some m → m.mtime + r < now

set_option linter.unusedVariables false in  -- `hmd5` is not needed
/-- **crash_put_outcomes**: what a server started after a kill reads for the key of the upload in
    flight, cut by cut.  Not begun and complete are the two outcomes the statement allows; the
    other four are the torn states of known finding D16-crash, and there are no others: the bytes
    are a prefix of the new body, the digest is the digest of those bytes, the headers are the
    old ones (none once the record file has been truncated). -/
theorem crash_put_outcomes (md5 : Bytes → Bytes) (hmd5 : ∀ x, md5 x ≠ []) (r : Nat) (d : Disk) (k body : Bytes) (md : Meta)
    (now : Nat) (hfresh : Fresh r now (slotOf d k)) (c : PutCut) :
    readKey md5 r (crash md5 d (.put k body md now c)) k =
      match c with
      | .beforeCreate => readKey md5 r d k
      | .afterCreate => .ok ⟨[], md5 [], ((slotOf d k).mrec.getD MetaRec.zero).md⟩
      | .midWrite n => .ok ⟨body.take n, md5 (body.take n), ((slotOf d k).mrec.getD MetaRec.zero).md⟩
      | .afterWrite => .ok ⟨body, md5 body, ((slotOf d k).mrec.getD MetaRec.zero).md⟩
      | .metaTruncated => .ok ⟨body, md5 body, []⟩
      | .done => .ok ⟨body, md5 body, md⟩ := by
  have hst : ∀ b : Bytes, stale r ⟨b, now⟩ ((slotOf d k).mrec.getD MetaRec.zero) = true := by
    intro b
    cases hm : (slotOf d k).mrec with
    | none => simp [stale, MetaRec.zero]
    | some m =>
      have := hfresh m hm
      simp only [stale, Bool.or_eq_true, decide_eq_true_eq]
      left; right; exact this
  cases c with
  | beforeCreate => simp [readKey, crash, slotOf_update, putCut]
  | afterCreate | midWrite n | afterWrite => simp [readKey, crash, slotOf_update, putCut, load, hst]
  | metaTruncated => simp [readKey, crash, slotOf_update, putCut, load, stale, MetaRec.zero]
  | done =>
    simp only [readKey, crash, slotOf_update, if_true]
    rw [put_ack_read md5]

theorem putCut_file (md5 : Bytes → Bytes) (now : Nat) (s : Slot) (body : Bytes) (md : Meta) (c : PutCut) :
    c = .beforeCreate ∨ ∃ n, (putCut md5 now s body md c).file = some ⟨body.take n, now⟩ := by
  cases c with
  | beforeCreate => exact Or.inl rfl
  | afterCreate => exact Or.inr ⟨0, rfl⟩
  | midWrite n => exact Or.inr ⟨n, rfl⟩
  | afterWrite | metaTruncated | done => exact Or.inr ⟨body.length, by simp [putCut]⟩

/-- whatever the clock did: the bytes read after a cut upload are the old object's or a prefix
    of the new body -/
theorem crash_put_body (md5 : Bytes → Bytes) (r : Nat) (d : Disk) (k body : Bytes) (md : Meta) (now : Nat) (c : PutCut) :
    readKey md5 r (crash md5 d (.put k body md now c)) k = readKey md5 r d k ∨
    ∃ o n, readKey md5 r (crash md5 d (.put k body md now c)) k = .ok o ∧ o.body = body.take n := by
  rcases putCut_file md5 now (slotOf d k) body md c with rfl | ⟨n, hn⟩
  · left; simp [readKey, crash, slotOf_update, putCut]
  · right
    obtain ⟨o, ho, hb⟩ := load_ok_of_file md5 r _ _ hn
    exact ⟨o, n, by simpa [readKey, crash, slotOf_update] using ho, hb⟩

/-! The clause the code does not meet (known finding D16-crash). -/

/-- "any write in flight is either wholly present or wholly absent" -/
def InflightAtomic (md5 : Bytes → Bytes) (r : Nat) : Prop :=
  ∀ (d : Disk) (k body : Bytes) (md : Meta) (now : Nat) (c : PutCut),
    readKey md5 r (crash md5 d (.put k body md now c)) k = readKey md5 r d k ∨
    readKey md5 r (crash md5 d (.put k body md now c)) k = readKey md5 r (crash md5 d (.put k body md now .done)) k

/-- **inflight_not_atomic**: refuted with a witness: an overwrite cut in the middle of its write
    reads as half of the new body under the old headers -/
theorem inflight_not_atomic : ¬ InflightAtomic (fun b => 0 :: b) 0 := by
  intro h
  have := h [([107], ⟨some ⟨[1, 1], 1⟩, some ⟨2, 1, [0, 1, 1], [([120], [121])]⟩⟩)] [107] [2, 2, 2, 2] [] 5 (.midWrite 2)
  revert this
  decide +kernel

/-- without `Fresh` even the digest can be wrong: an overwrite of the same length within the
    clock's resolution, cut before its record is written, reads as the new bytes under the old
    digest -/
theorem crash_stale_digest :
    readKey (fun b => 0 :: b) 0 (crash (fun b => 0 :: b) [([107], ⟨some ⟨[1, 1], 1⟩, some ⟨2, 1, [0, 1, 1], []⟩⟩)]
      (.put [107] [2, 2] [] 1 .afterWrite)) [107] = .ok ⟨[2, 2], [0, 1, 1], []⟩ := by
  decide +kernel

/-! Non-vacuity: a history with an overwrite, a delete and a read; a fresh cut. -/
example : readKey (fun b => 0 :: b) 3 (run (fun b => 0 :: b) 3 []
    [.put [107] [1] [([120], [121])] 10, .put [107] [2, 2] [] 11, .get [107], .put [108] [3] [] 11, .del [108]]) [107]
    = .ok ⟨[2, 2], [0, 2, 2], []⟩ := by decide +kernel
example : Fresh 3 20 (slotOf (run (fun b => 0 :: b) 3 [] [.put [107] [1] [] 10]) [107]) := by
  intro m h; simp [run, step, slotOf, SMap.find, SMap.insert, putCut, Slot.absent] at h; subst h; decide

end GFS.Props.C15D
