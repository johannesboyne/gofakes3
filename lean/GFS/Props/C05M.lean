import GFS.Props.C05R
/-
  C05: on an existing bucket a multi-delete request leaves the store that `C05R.mstep`, folded over
  one `del` / `delVer` per entry, leaves.  `C05R.run` moves its store by the same `mstep`; the step
  from this fold to `run` (which `versions_run_refines` speaks of), and from `MRel` to the `isSome`
  asked for here, is not taken in the development.
-/
namespace GFS.Props.C05M
open GFS.Model GFS.Props.C05R

def opOf (p : Key × Option Nat) : HOp :=
  match p.2 with
  | some vid => .delVer p.1 vid
  | none => .del p.1

/-- **multi_delete_versions_is_sequence**: DeleteMultiVersions on an existing bucket leaves exactly
    the store that deleting its entries one after the other leaves (a plain delete for an entry
    without a version id, a delete of that version otherwise) -/
theorem multi_delete_versions_is_sequence (md5 : Bytes → Bytes) (m : Mem) (b : Bytes) (objs : List (Key × Option Nat))
    (hb : (SMap.find m.buckets b).isSome = true) :
    (m.deleteMultiVersions b objs).1 = (objs.map opOf).foldl (mstep md5 b) m := by
  unfold Mem.deleteMultiVersions
  cases hf : SMap.find m.buckets b with
  | none => simp [hf] at hb
  | some bk =>
    simp only [List.foldl_map]
    congr 1
    funext acc p
    unfold opOf
    cases p.2 <;> rfl

/-- the unversioned multi-delete is the sequence of plain deletes -/
theorem multi_delete_is_sequence (md5 : Bytes → Bytes) (m : Mem) (b : Bytes) (ks : List Key)
    (hb : (SMap.find m.buckets b).isSome = true) :
    (m.deleteMulti b ks).1 = (ks.map HOp.del).foldl (mstep md5 b) m := by
  unfold Mem.deleteMulti
  cases hf : SMap.find m.buckets b with
  | none => simp [hf] at hb
  | some bk => simp only [List.foldl_map]; rfl

example : (Mem.deleteMultiVersions (run id [98] C05R.exM ⟨.never, []⟩ C05R.exOps).1 [98] [([107], some 2), ([107], none)]).1.nextVer = 5 := by
  decide +kernel

end GFS.Props.C05M
