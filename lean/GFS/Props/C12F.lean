import GFS.Props.C12
/-
  C12, the quantifier over fragmentations: for EVERY way the transport cuts the stream into
  reads, every sequence of caller buffer sizes and every way the stream ends, the decoder
  delivers a prefix of the payload, reports the end only after the whole payload, and never
  reports a framing error on a well-formed stream.
-/
namespace GFS.Props.C12F
open GFS.Model.Chunk GFS.Spec.ChunkSpec GFS.Props.C12

def enc (cs : List Chunk) : Bytes := (cs.map encodeChunk).flatten
def pay (cs : List Chunk) : Bytes := (cs.map (·.payload)).flatten

/-- the stream ends with a zero-size chunk -/
def EndsZero (rem : List Chunk) : Prop := ∀ c, rem.getLast? = some c → c.payload = []

theorem endsZero_tail {c : Chunk} {r : List Chunk} (h : EndsZero (c :: r)) : EndsZero r := by
  intro x hx
  apply h x
  cases r with
  | nil => simp at hx
  | cons y ys => rw [List.getLast?_cons_cons]; exact hx

/-- where the decoder stands in the stream: `p` of the current chunk's payload is still to be
    delivered, then come that chunk's CRLF `tr` and the chunks `rem` (before the first header
    `p = tr = []`); `D` has been delivered so far, `P` is the whole payload -/
def Inv (P D : Bytes) (st : St) (input : Bytes) : Prop :=
  ∃ p tr rem, st.remain = p.length ∧ st.complete = false ∧ input = p ++ (tr ++ enc rem) ∧
    (if st.notFirst then tr.length = 2 else tr = []) ∧ (0 < st.remain → st.notFirst = true) ∧ (∀ c ∈ rem, c.WF) ∧
    D ++ (p ++ pay rem) = P ∧ EndsZero rem ∧ (rem = [] → st.notFirst = true ∧ st.last = 0 ∧ p = [])

structure Good (cfg : Cfg) (P D acc : Bytes) (r : ReadRes) : Prop where
  out : ∃ o, r.out = acc ++ o ∧
    (r.err = none → Inv P (D ++ o) r.st r.input) ∧
    (∀ e, r.err = some e → e = cfg.tail.toEnd ∧ D ++ o = P)
  unk : r.unk = false
  /-- when the end is reported, the terminating chunk has been read to its end -/
  fin : ∀ e, r.err = some e → r.st.complete = true

theorem inv_prefix {P D : Bytes} {st : St} {input : Bytes} (h : Inv P D st input) : D <+: P := by
  obtain ⟨p, tr, rem, _, _, _, _, _, _, hD, _⟩ := h
  exact ⟨_, hD⟩

theorem hdr_inv {P D : Bytes} {c : Chunk} {rem' : List Chunk} (hwfc : c.WF) (hwf' : ∀ x ∈ rem', x.WF)
    (hD : D ++ pay (c :: rem') = P) (hez : EndsZero (c :: rem')) :
    Inv P D ⟨(hexValue c.digits : Int), true, (hexValue c.digits : Int), false⟩ (c.payload ++ (c.trailer ++ enc rem')) := by
  obtain ⟨-, -, hval, -, -, htrl⟩ := hwfc
  refine ⟨c.payload, c.trailer, rem', by simp [hval], rfl, rfl, htrl, fun _ => rfl, hwf', by simpa [pay] using hD,
    endsZero_tail hez, fun e => ?_⟩
  subst e
  have := hez c rfl
  simp [hval, this]

theorem enc_cons (c : Chunk) (rem : List Chunk) :
    enc (c :: rem) = c.digits ++ 59 :: (c.ext ++ (c.payload ++ (c.trailer ++ enc rem))) := by
  simp [enc, encodeChunk]

theorem enc_cons_length (c : Chunk) (rem : List Chunk) :
    (c.payload ++ (c.trailer ++ enc rem)).length < (enc (c :: rem)).length := by
  rw [enc_cons]
  generalize c.payload ++ (c.trailer ++ enc rem) = X
  rw [List.length_append, List.length_cons, List.length_append]
  exact Nat.lt_add_left _ (Nat.lt_succ_of_le (Nat.le_add_left ..))

theorem read_header (cfg : Cfg) (fuel : Nat) {st : St} {tr : Bytes} {c : Chunk} (rem : List Chunk) {want : Nat}
    (acc : Bytes) (hw : want ≠ 0) (hr : st.remain = 0) (htr : if st.notFirst then tr.length = 2 else tr = [])
    (hc : c.WF) :
    GFS.Model.Chunk.read cfg (fuel + 1) st (tr ++ enc (c :: rem)) want acc =
      GFS.Model.Chunk.read cfg fuel ⟨(hexValue c.digits : Int), true, (hexValue c.digits : Int), false⟩
        (c.payload ++ (c.trailer ++ enc rem)) want acc := by
  obtain ⟨hne, hall, hval, hmax, hext, -⟩ := hc
  have hat : (if st.notFirst = true then skip 2 (tr ++ enc (c :: rem)) else some (tr ++ enc (c :: rem))) =
      some (enc (c :: rem)) := by
    by_cases hnf : st.notFirst = true
    · rw [if_pos hnf] at htr ⊢; exact skip_append htr
    · rw [if_neg hnf] at htr ⊢; rw [htr, List.nil_append]
  rw [GFS.Model.Chunk.read, if_neg hw, if_neg (Int.not_lt.mpr (Int.le_of_eq hr)), hat, enc_cons]
  simp only [scan_wellformed_header c.digits _ hne hall (hval ▸ hmax), skip_append hext]

theorem data_inv {P D : Bytes} {st : St} {input : Bytes} (h : Inv P D st input) (hr : st.remain > 0) {n : Nat}
    (hn : (n : Int) ≤ st.remain) :
    Inv P (D ++ input.take n) { st with remain := st.remain - n } (input.drop n) ∧
      (input.drop n).isEmpty = false := by
  obtain ⟨p, tr, rem, hp, hcf, rfl, htr, hnf, hwf, hD, hez, hlast⟩ := h
  have hnp : n ≤ p.length := Int.ofNat_le.mp (hp ▸ hn)
  rw [List.take_append_of_le_length hnp, List.drop_append_of_le_length hnp]
  refine ⟨⟨p.drop n, tr, rem, by rw [List.length_drop, Int.ofNat_sub hnp, ← hp], hcf, rfl, htr, fun _ => hnf hr, hwf, ?_,
    hez, fun e => ?_⟩, ?_⟩
  · rw [List.append_assoc, ← List.append_assoc (p.take n), List.take_append_drop]
    exact hD
  · rw [hp, (hlast e).2.2] at hr
    exact absurd hr (Int.lt_irrefl 0)
  · rw [if_pos (hnf hr)] at htr
    cases tr with
    | nil => simp at htr
    | cons t ts => simp

theorem good_noop (cfg : Cfg) {P D : Bytes} (acc : Bytes) {st : St} {input : Bytes} (h : Inv P D st input) :
    Good cfg P D acc ⟨acc, st, input, none, false⟩ :=
  ⟨⟨[], by simp, fun _ => by simpa using h, fun e he => by simp at he⟩, rfl, fun e he => by simp at he⟩

/-- the second conjunct is progress, under the fuel `consume` supplies -/
theorem read_good (cfg : Cfg) {P : Bytes} (fuel : Nat) {st : St} {input : Bytes} (want : Nat) (acc : Bytes) {D : Bytes}
    (h : Inv P D st input) :
    Good cfg P D acc (GFS.Model.Chunk.read cfg fuel st input want acc) ∧
    (input.length + 2 ≤ fuel → 0 < want → (GFS.Model.Chunk.read cfg fuel st input want acc).err = none →
      acc.length < (GFS.Model.Chunk.read cfg fuel st input want acc).out.length) := by
  induction fuel generalizing st input want acc D with
  | zero => exact ⟨good_noop cfg acc h, fun hf => by omega⟩
  | succ fuel ih =>
    by_cases hw : want = 0
    · subst hw; rw [read_zero]; exact ⟨good_noop cfg acc h, fun _ hw => by omega⟩
    by_cases hr : st.remain > 0
    · -- inside a payload: the first inner read already delivers a byte
      have hi : input ≠ [] := by
        obtain ⟨p, tr, rem, hp, -, rfl, -⟩ := h
        cases p with
        | nil => exact absurd hp (by simp; omega)
        | cons => simp
      obtain ⟨n, hn0, hnr, hni, heq⟩ := read_data cfg fuel acc hw hr hi
      obtain ⟨hinv, hne⟩ := data_inv h hr hnr
      rw [heq, hne]
      simp only [Bool.false_and, Bool.false_eq_true, if_false]
      obtain ⟨⟨⟨o, ho, h1, h2⟩, hu, hf⟩, -⟩ := ih (want - n) (acc ++ input.take n) hinv
      refine ⟨⟨⟨input.take n ++ o, by rw [ho, List.append_assoc], ?_, ?_⟩, hu, hf⟩, fun _ _ _ => ?_⟩
      · intro he; simpa [List.append_assoc] using h1 he
      · intro e he; simpa [List.append_assoc] using h2 e he
      · rw [ho]
        simp only [List.length_append, List.length_take]
        omega
    obtain ⟨p, tr, rem, hp, hcf, rfl, htr, -, hwf, hD, hez, hlast⟩ := h
    obtain rfl : p = [] := List.eq_nil_of_length_eq_zero (by omega)
    rw [List.nil_append] at hD ⊢
    cases rem with
    | nil =>
      -- nothing follows: the end of the stream, everything has been delivered
      obtain ⟨hnf, hl0, -⟩ := hlast rfl
      have : GFS.Model.Chunk.read cfg (fuel + 1) st (tr ++ enc []) want acc =
          ⟨acc, { st with complete := st.last == 0, notFirst := true }, [], some cfg.tail.toEnd, false⟩ := by
        rw [if_pos hnf] at htr
        rw [GFS.Model.Chunk.read, if_neg hw, if_neg hr, skip_append htr]
        simp [enc, scanHexSemi, skipScanSpace, hnf]
      rw [this]
      exact ⟨⟨⟨[], by simp, fun he => by simp at he, fun e he => ⟨by simpa using he.symm, by simpa [pay] using hD⟩⟩,
        rfl, fun e _ => by simp [hl0]⟩, fun _ _ he => by simp at he⟩
    | cons c rem' =>
      have hc := hwf c (List.mem_cons_self ..)
      rw [read_header cfg fuel rem' acc hw (by omega) htr hc]
      obtain ⟨g, p⟩ := ih want acc (hdr_inv hc (fun x hx => hwf x (List.mem_cons_of_mem _ hx)) hD hez)
      refine ⟨g, fun hf => p ?_⟩
      have := enc_cons_length c rem'
      simp only [List.length_append] at hf this ⊢
      omega

theorem readF_eq {cfg : Cfg} {P D acc : Bytes} {fuel : Nat} {st : St} {input : Bytes} {want : Nat}
    (h : Good cfg P D acc (GFS.Model.Chunk.read cfg fuel st input want acc)) :
    readF cfg fuel st input want acc = GFS.Model.Chunk.read cfg fuel st input want acc := by
  unfold readF
  simp only
  split
  · rename_i hc
    have := h.fin _ hc.1
    rw [hc.2] at this; cases this
  · rfl

theorem consume_good (cfg : Cfg) {P : Bytes} (bufs : List Nat) {st : St} {input : Bytes} (acc : Bytes) {D : Bytes} (h : Inv P D st input) :
    let r := consume cfg bufs st input acc
    ∃ o, r.1 = acc ++ o ∧ r.2.2 = false ∧ D ++ o <+: P ∧
      (∀ e, r.2.1 = some e → e = cfg.tail.toEnd ∧ D ++ o = P) ∧
      ((∀ b ∈ bufs, 0 < b) → P.length - D.length < bufs.length → r.2.1 ≠ none) := by
  induction bufs generalizing st input acc D with
  | nil =>
    exact ⟨[], by simp [consume], by simp [consume], by simpa using inv_prefix h,
      by intro e he; simp [consume] at he, by intro _ hl; simp at hl⟩
  | cons b bs ih =>
    obtain ⟨hg, hprog⟩ := read_good cfg (input.length + 2) b [] h
    have ⟨⟨o, ho, h1, h2⟩, hu, _⟩ := hg
    simp only [List.nil_append] at ho
    simp only [consume, readF_eq hg]
    cases he : (GFS.Model.Chunk.read cfg (input.length + 2) st input b []).err with
    | some e =>
      obtain ⟨e1, e2⟩ := h2 e he
      exact ⟨o, by rw [ho], hu, e2 ▸ List.prefix_refl _, by intro e' he'; simp at he'; subst he'; exact ⟨e1, e2⟩,
        by simp⟩
    | none =>
      have hinv := h1 he
      obtain ⟨o2, g1, g2, g3, g4, g5⟩ := ih (acc ++ (GFS.Model.Chunk.read cfg (input.length + 2) st input b []).out) hinv
      refine ⟨o ++ o2, ?_, g2, by simpa [List.append_assoc] using g3, ?_, ?_⟩
      · rw [g1, ho]; simp [List.append_assoc]
      · intro e he'
        obtain ⟨a, b'⟩ := g4 e he'
        exact ⟨a, by simpa [List.append_assoc] using b'⟩
      · -- this read delivered at least one byte of the payload still due
        intro hb hl
        have hol : 0 < o.length := by
          have := hprog (Nat.le_refl _) (hb b (List.mem_cons_self ..)) he
          rw [ho] at this
          simpa using this
        apply g5 (fun x hx => hb x (List.mem_cons_of_mem _ hx))
        have := (inv_prefix hinv).length_le
        simp only [List.length_append, List.length_cons] at this hl ⊢
        omega

theorem inv_init {chunks : List Chunk} (hwf : ∀ c ∈ chunks, c.WF) (hne : chunks ≠ []) (hz : EndsZero chunks) :
    Inv (pay chunks) [] St.init (enc chunks) :=
  ⟨[], [], chunks, rfl, rfl, rfl, by simp [St.init], by simp [St.init], hwf, rfl, hz, fun e => absurd e hne⟩

/-- **decode_any_fragmentation**: on every well-formed aws-chunked stream (any chunks whose hex
    size field is the length of their payload, closed by a zero-size chunk), however the transport
    fragments it into reads (`cfg.cut`), whatever the caller's buffer sizes and however the stream
    ends, the decoder never reports a framing error, has at every moment delivered a prefix of the
    payload, and reports the end — the transport's own — only after the whole payload. -/
theorem decode_any_fragmentation (cfg : Cfg) (chunks : List Chunk) (hwf : ∀ c ∈ chunks, c.WF)
    (hne : chunks ≠ []) (hz : EndsZero chunks) (bufs : List Nat) :
    let r := decode cfg bufs (enc chunks)
    r.2.2 = false ∧ r.1 <+: pay chunks ∧
    (∀ e, r.2.1 = some e → e = cfg.tail.toEnd ∧ r.1 = pay chunks) := by
  obtain ⟨o, h1, h2, h3, h4, -⟩ := consume_good cfg bufs [] (inv_init hwf hne hz)
  subst h1
  exact ⟨h2, h3, h4⟩

/-- **decode_complete**: read to the end (non-empty buffers, at least payload length + 1 reads)
    such a stream delivers exactly the payload and ends with the transport's own end. -/
theorem decode_complete (cfg : Cfg) (chunks : List Chunk) (hwf : ∀ c ∈ chunks, c.WF)
    (hne : chunks ≠ []) (hz : EndsZero chunks) (bufs : List Nat)
    (hb : ∀ b ∈ bufs, 0 < b) (hn : (pay chunks).length < bufs.length) :
    decode cfg bufs (enc chunks) = (pay chunks, some cfg.tail.toEnd, false) := by
  obtain ⟨o, h1, h2, -, h4, hc⟩ := consume_good cfg bufs [] (inv_init hwf hne hz)
  unfold decode
  cases he : (consume cfg bufs St.init (enc chunks) []).2.1 with
  | none => exact absurd he (hc hb (by simpa using hn))
  | some e =>
    obtain ⟨e1, e2⟩ := h4 e he
    exact Prod.ext (by rw [h1]; exact e2) (Prod.ext (by rw [he, e1]) h2)

theorem streamWF_all {cs : List Chunk} {final : Chunk} (hwf : StreamWF cs final) : ∀ c ∈ cs ++ [final], c.WF := by
  intro c hc
  rcases List.mem_append.mp hc with h | h
  · exact (hwf.1 c h).1
  · rw [List.mem_singleton.mp h]; exact hwf.2.1

theorem streamWF_endsZero {cs : List Chunk} {final : Chunk} (hwf : StreamWF cs final) : EndsZero (cs ++ [final]) := by
  intro c hc
  rw [List.getLast?_concat] at hc
  cases hc; exact hwf.2.2

theorem encode_eq_enc (cs : List Chunk) (final : Chunk) : encode cs final = enc (cs ++ [final]) := by
  simp [encode, enc]

/-- the same for the stream shape the statement names (data chunks + final zero-size chunk) -/
theorem decode_wellformed_stream (cfg : Cfg) (cs : List Chunk) (final : Chunk) (hwf : StreamWF cs final)
    (bufs : List Nat) :
    let r := decode cfg bufs (encode cs final)
    r.2.2 = false ∧ r.1 <+: payload cs ∧
    (∀ e, r.2.1 = some e → e = cfg.tail.toEnd ∧ r.1 = payload cs) := by
  have hpay : pay (cs ++ [final]) = payload cs := by simp [pay, payload, hwf.2.2]
  have := decode_any_fragmentation cfg (cs ++ [final]) (streamWF_all hwf) (by simp) (streamWF_endsZero hwf) bufs
  rw [encode_eq_enc, ← hpay]
  exact this

/-! Non-vacuity: a two-chunk stream ("3;"+ext+"abc"+CRLF, "0;"+ext+CRLF) cut after every byte,
    read into 2-byte buffers, with the transport failing at the end. -/
def exExt : Bytes := List.replicate 82 120
def exChunks : List Chunk := [⟨[51], exExt, [97, 98, 99], [13, 10]⟩, ⟨[48], exExt, [], [13, 10]⟩]
example : ∀ c ∈ exChunks, c.WF := by decide +kernel
set_option maxRecDepth 100000 in
example : decode ⟨fun _ => true, .fail, true⟩ [2, 2, 2, 2] (enc exChunks) = ([97, 98, 99], some .fail, false) := by
  decide +kernel

end GFS.Props.C12F
