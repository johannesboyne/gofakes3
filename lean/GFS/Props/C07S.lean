import GFS.Props.ListLoop
import GFS.Lemmas.MemOps
/-
  C07 at schedule level.  `strip` forgets every stored metadata map; two stores with the same
  `strip` are indistinguishable on everything C07 names (bodies, lengths, ETags, version ids,
  delete markers, archived versions, versioning status, the id counter).  Every operation commutes
  with `strip`, the commit step of an upload whatever metadata it carries — so ANY interleaving of
  the steps of uploads with the operations of `AOp` is, on those observables, the sequential run
  in which each upload happens atomically at its commit step.
-/
namespace GFS.Props.C07S
open GFS.Model GFS.SMapL

def stripV (v : Ver) : Ver := { v with md := [] }
def stripO (o : Obj) : Obj := ⟨o.data.map stripV, o.versions.map stripV⟩
def stripB (bk : Bucket) : Bucket := ⟨bk.versioning, mapV stripO bk.objects⟩
def strip (m : Mem) : Mem := ⟨mapV stripB m.buckets, m.nextVer⟩

@[simp] theorem stripV_id (v : Ver) : (stripV v).id = v.id := rfl
@[simp] theorem stripV_marker (v : Ver) : (stripV v).marker = v.marker := rfl
@[simp] theorem stripV_idem (v : Ver) : stripV (stripV v) = stripV v := rfl

theorem insertVer_strip (vs : List Ver) (v : Ver) :
    insertVer (vs.map stripV) (stripV v) = (insertVer vs v).map stripV := by
  induction vs with
  | nil => rfl
  | cons w ws ih =>
    simp only [List.map_cons, insertVer, stripV_id]
    by_cases h1 : (w.id == v.id) = true
    · simp [h1]
    · by_cases h2 : v.id < w.id
      · simp [h1, h2]
      · simp [h1, h2, ih]

theorem promote_strip (o : Obj) : (stripO o).promote = stripO o.promote := by
  unfold Obj.promote stripO
  cases hd : o.data with
  | some d => simp [hd]
  | none =>
    simp only [Option.map_none, List.getLast?_map]
    cases o.versions.getLast? <;> simp [hd, List.map_dropLast]

theorem find_stripB (bk : Bucket) (k : Key) : SMap.find (stripB bk).objects k = (SMap.find bk.objects k).map stripO := by
  simp [stripB, find_mapV]

theorem bstore_strip (bk : Bucket) (k : Key) (o : Obj) :
    (stripB bk).storeObj k (stripO o) = stripB (bk.storeObj k o) := by
  unfold Bucket.storeObj
  rw [show (stripO o).data.isNone = o.data.isNone from Option.isNone_map,
    show (stripO o).versions.isEmpty = o.versions.isEmpty from List.isEmpty_map]
  split
  · simp [stripB, mapV_erase]
  · simp [stripB, mapV_insert]

def mapR {α β : Type} (f : α → β) : Res α → Res β
  | .ok a => .ok (f a)
  | .err c => .err c
  | .panic s => .panic s

theorem find_id_strip (vs : List Ver) (vid : Nat) :
    (vs.map stripV).find? (·.id == vid) = (vs.find? (·.id == vid)).map stripV := by
  rw [List.find?_map]; rfl

theorem filter_id_strip (vs : List Ver) (vid : Nat) :
    (vs.map stripV).filter (fun w => !(w.id == vid)) = (vs.filter (fun w => !(w.id == vid))).map stripV := by
  rw [List.filter_map]; rfl

theorem objectVersion_strip (bk : Bucket) (k : Key) (vid : Nat) :
    (stripB bk).objectVersion k vid = mapR stripV (bk.objectVersion k vid) := by
  unfold Bucket.objectVersion
  rw [find_stripB]
  cases SMap.find bk.objects k with
  | none => rfl
  | some o =>
    obtain ⟨_ | d, vs⟩ := o
    · simp only [Option.map_some, stripO, Option.map_none, find_id_strip]
      cases vs.find? (·.id == vid) <;> rfl
    · simp only [Option.map_some, stripO, find_id_strip, stripV_id]
      cases d.id == vid
      · cases vs.find? (·.id == vid) <;> rfl
      · rfl

theorem push_strip (o : Obj) (e : Bool) (item : Ver) : (stripO o).push e (stripV item) = stripO (o.push e item) := by
  cases e with
  | false => rfl
  | true => cases hd : o.data <;> simp [Obj.push, stripO, hd, insertVer_strip]

theorem dropCurrent_strip (o : Obj) : (stripO o).dropCurrent = stripO o.dropCurrent :=
  promote_strip ⟨none, o.versions⟩

theorem rmVer_strip (o : Obj) (vid : Nat) : (stripO o).rmVer vid = (stripO (o.rmVer vid).1, (o.rmVer vid).2) := by
  have ha : (stripO o).rmArchived vid = (stripO (o.rmArchived vid).1, (o.rmArchived vid).2) := by
    simp only [Obj.rmArchived, stripO, find_id_strip, filter_id_strip]
    cases o.versions.find? (·.id == vid) <;> rfl
  obtain ⟨_ | d, vs⟩ := o
  · exact ha
  · unfold Obj.rmVer
    simp only [show (stripO ⟨some d, vs⟩).data = some (stripV d) from rfl, stripV_id, stripV_marker, dropCurrent_strip, ha]
    cases d.id == vid <;> rfl

theorem old_stripB (bk : Bucket) (k : Key) : (stripB bk).old k = stripO (bk.old k) := by
  unfold Bucket.old; rw [find_stripB]; cases SMap.find bk.objects k <;> rfl

theorem bput_strip (bk : Bucket) (k : Key) (item : Ver) : (stripB bk).put k (stripV item) = stripB (bk.put k item) := by
  rw [Bucket.put_eq, Bucket.put_eq, old_stripB, ← bstore_strip]; exact congrArg _ (push_strip ..)

theorem brm_strip (bk : Bucket) (k : Key) (f : Nat) : (stripB bk).rm k f = (stripB (bk.rm k f).1, (bk.rm k f).2) := by
  rw [Bucket.rm_eq, Bucket.rm_eq, find_stripB]
  cases SMap.find bk.objects k with
  | none => rfl
  | some o =>
    simp only [Option.map_some, dropCurrent_strip, bstore_strip, show (stripB bk).versioning = bk.versioning from rfl]
    cases bk.versioning == .enabled
    · rfl
    · exact Prod.ext (bput_strip bk k ⟨f, true, [], [], []⟩) rfl

theorem brmVersion_strip (bk : Bucket) (k : Key) (vid : Nat) :
    (stripB bk).rmVersion k vid = (stripB (bk.rmVersion k vid).1, (bk.rmVersion k vid).2) := by
  rw [Bucket.rmVersion_eq_old, Bucket.rmVersion_eq_old, old_stripB, rmVer_strip, bstore_strip]

theorem find_strip (m : Mem) (b : Bytes) : SMap.find (strip m).buckets b = (SMap.find m.buckets b).map stripB := by
  simp [strip, find_mapV]

theorem get_strip (m : Mem) (b : Bytes) (k : Key) : (strip m).get b k = mapR stripV (m.get b k) := by
  unfold Mem.get Mem.current
  rw [find_strip]
  cases SMap.find m.buckets b with
  | none => rfl
  | some bk =>
    simp only [Option.map_some, find_stripB]
    cases SMap.find bk.objects k with
    | none => rfl
    | some o =>
      simp only [Option.map_some, stripO]
      cases o.data with
      | none => rfl
      | some d =>
        by_cases hm : d.marker = true <;> simp [hm, mapR]

theorem getVersion_strip (m : Mem) (b : Bytes) (k : Key) (vid : Nat) :
    (strip m).getVersion b k vid = mapR stripV (m.getVersion b k vid) := by
  unfold Mem.getVersion
  rw [find_strip]
  cases SMap.find m.buckets b with
  | none => rfl
  | some bk => simp only [Option.map_some]; exact objectVersion_strip bk k vid

theorem delete_strip (m : Mem) (b : Bytes) (k : Key) : (strip m).delete b k = (strip (m.delete b k).1, (m.delete b k).2) := by
  unfold Mem.delete; rw [find_strip]
  cases SMap.find m.buckets b with
  | none => rfl
  | some bk =>
    simp only [Option.map_some, brm_strip, show (strip m).nextVer = m.nextVer from rfl]
    simp [strip, mapV_insert]

theorem deleteVersion_strip (m : Mem) (b : Bytes) (k : Key) (vid : Nat) :
    (strip m).deleteVersion b k vid = (strip (m.deleteVersion b k vid).1, (m.deleteVersion b k vid).2) := by
  unfold Mem.deleteVersion; rw [find_strip]
  cases SMap.find m.buckets b with
  | none => rfl
  | some bk =>
    simp only [Option.map_some, brmVersion_strip]
    simp [strip, mapV_insert]

theorem createBucket_strip (m : Mem) (b : Bytes) : (strip m).createBucket b = (strip (m.createBucket b).1, (m.createBucket b).2) := by
  unfold Mem.createBucket; rw [find_strip]
  cases SMap.find m.buckets b with
  | none => simp only [Option.map_none, Option.isSome_none, Bool.false_eq_true, if_false, strip, mapV_insert]; rfl
  | some bk => rfl

theorem deleteBucket_strip (m : Mem) (b : Bytes) : (strip m).deleteBucket b = (strip (m.deleteBucket b).1, (m.deleteBucket b).2) := by
  unfold Mem.deleteBucket; rw [find_strip]
  cases SMap.find m.buckets b with
  | none => rfl
  | some bk =>
    simp only [Option.map_some, show (stripB bk).objects.isEmpty = bk.objects.isEmpty from isEmpty_mapV _ _]
    split
    · rfl
    · simp [strip, mapV_erase]

theorem setVersioning_strip (m : Mem) (b : Bytes) (e : Bool) :
    (strip m).setVersioning b e = (strip (m.setVersioning b e).1, (m.setVersioning b e).2) := by
  unfold Mem.setVersioning; rw [find_strip]
  cases SMap.find m.buckets b with
  | none => rfl
  | some bk => simp [strip, mapV_insert, stripB]

theorem stripO_idem (o : Obj) : stripO (stripO o) = stripO o := by
  simp [stripO, Option.map_map, List.map_map, Function.comp_def]

theorem stripB_idem (bk : Bucket) : stripB (stripB bk) = stripB bk := by
  rw [stripB, stripB, mapV_mapV, (funext stripO_idem : stripO ∘ stripO = stripO)]

theorem stripB_comp : stripB ∘ stripB = stripB := funext stripB_idem

theorem strip_idem (m : Mem) : strip (strip m) = strip m := by
  rw [strip, strip, mapV_mapV, stripB_comp]

/-- the commit step of an upload, whatever metadata it carries, against the commit step on the
    stripped store with any other metadata -/
theorem putCommit_strip (md5 : Bytes → Bytes) (m : Mem) (b : Bytes) (k : Key) (md' md'' : Meta) (body : Bytes) :
    strip (m.putCommit md5 b k md' body).1 = strip ((strip m).putCommit md5 b k md'' body).1 ∧
    (m.putCommit md5 b k md' body).2 = ((strip m).putCommit md5 b k md'' body).2 := by
  unfold Mem.putCommit
  rw [find_strip]
  cases SMap.find m.buckets b with
  | none => exact ⟨(strip_idem m).symm, rfl⟩
  | some bk =>
    simp only [Option.map_some]
    refine ⟨?_, rfl⟩
    simp only [strip, mapV_insert, ← bput_strip, mapV_mapV, stripB_idem, stripB_comp]
    -- the two sides differ in the `md` of the stored version only, and `stripV` overwrites it
    rfl

/-- uploading atomically (`Mem.put`: merge and commit in one step) against the split upload -/
theorem put_strip (md5 : Bytes → Bytes) (m : Mem) (b : Bytes) (k : Key) (md md' : Meta) (body : Bytes) :
    strip (m.put md5 b k md body).1 = strip ((strip m).putCommit md5 b k md' body).1 ∧
    (m.put md5 b k md body).2 = ((strip m).putCommit md5 b k md' body).2 :=
  putCommit_strip md5 m b k _ _ body

/-! The object listing reads an object only through `liveMatch` (`ListLoop.listLoop_mapV`), and
    `liveMatch` does not see metadata. -/

theorem liveMatch_strip (p : Prefix) (k : Key) (o : Obj) :
    C03G.liveMatch p (k, stripO o) = C03G.liveMatch p (k, o) := by
  cases h : o.data <;> simp [C03G.liveMatch, stripO, h, stripV]

theorem listBucket_strip (m : Mem) (b : Bytes) (p : Prefix) (marker : Bytes) (mk : Int) :
    (strip m).listBucket b p marker mk = m.listBucket b p marker mk := by
  unfold Mem.listBucket
  rw [find_strip]
  cases SMap.find m.buckets b with
  | none => rfl
  | some bk =>
    simp only [Option.map_some, stripB]
    rw [ListLoop.afterMarker_mapV]
    exact ListLoop.listLoop_mapV p mk stripO (fun _ => Option.map_eq_none_iff) (liveMatch_strip p) _ _ _ _

/-! The version listing reads a version only through its id, marker flag, body length and digest:
    stripping commutes with `allVersions` and `versionsFrom` (`sv` strips the version and keeps the
    is-current flag), and none of the loops sees the difference. -/

def sv (x : Ver × Bool) : Ver × Bool := (stripV x.1, x.2)

theorem allVersions_strip (o : Obj) : (stripO o).allVersions = o.allVersions.map sv := by
  unfold Obj.allVersions stripO sv
  cases o.data <;> simp [List.map_append, List.map_map, Function.comp_def]

theorem versionsFrom_strip (o : Obj) (vid : Nat) : (stripO o).versionsFrom vid = (o.versionsFrom vid).map (List.map sv) := by
  have hdw : (o.versions.map stripV).dropWhile (fun v => v.id < vid) =
      (o.versions.dropWhile (fun v => v.id < vid)).map stripV := List.dropWhile_map
  simp only [Obj.versionsFrom, stripO, hdw]
  cases o.versions.dropWhile (fun v => v.id < vid) with
  | cons v rest => exact congrArg some (allVersions_strip ⟨o.data, v :: rest⟩)
  | nil =>
    cases o.data with
    | none => rfl
    | some d => exact (Option.map_if (f := List.map sv) (a := [(d, true)])).symm

theorem verLoopInner_strip (k : Key) (masked : Bool) (mk : Int) : ∀ (vs : List (Ver × Bool)) (cnt : Int) (acc : List VerEntry),
    verLoopInner k masked mk (vs.map sv) cnt acc = verLoopInner k masked mk vs cnt acc := by
  intro vs
  induction vs with
  | nil => exact fun _ _ => rfl
  | cons x rest ih =>
    intro cnt acc
    simp only [List.map_cons, verLoopInner, List.head?_map, Option.map_map, ih]
    rfl

theorem nextMatching_strip (p : Prefix) : ∀ objs : List (Key × Obj), nextMatching p (mapV stripO objs) = nextMatching p objs := by
  intro objs
  induction objs with
  | nil => rfl
  | cons q rest ih =>
    obtain ⟨k, o⟩ := q
    show nextMatching p ((k, stripO o) :: mapV stripO rest) = _
    simp only [nextMatching, allVersions_strip, List.head?_map, ih]
    cases p.match_ k with
    | none => rfl
    | some r => cases o.allVersions.head? <;> rfl

theorem verLoop_strip (p : Prefix) (masked : Bool) (mk : Int) (km : Bytes) (vm : Option Nat) :
    ∀ (objs : List (Key × Obj)) (cnt : Int) (acc : VersionList),
      verLoop p masked mk km vm (mapV stripO objs) cnt acc = verLoop p masked mk km vm objs cnt acc := by
  intro objs
  induction objs with
  | nil => exact fun _ _ => rfl
  | cons q rest ih =>
    intro cnt acc
    obtain ⟨k, o⟩ := q
    show verLoop p masked mk km vm ((k, stripO o) :: mapV stripO rest) cnt acc = _
    simp only [verLoop]
    cases p.match_ k with
    | none => exact ih cnt acc
    | some r =>
      obtain ⟨_ | _, mp⟩ := r
      · simp only
        cases vm with
        | none => simp only [allVersions_strip, verLoopInner_strip, nextMatching_strip, ih]
        | some vid =>
          by_cases hk : (k == km) = true
          · simp only [hk, if_true, versionsFrom_strip]
            cases o.versionsFrom vid with
            | none => rfl
            | some vs => simp only [Option.map_some, verLoopInner_strip, nextMatching_strip, ih]
          · simp only [hk, Bool.false_eq_true, if_false, allVersions_strip, verLoopInner_strip, nextMatching_strip, ih]
      · exact ih cnt _

theorem listVersions_strip (m : Mem) (b : Bytes) (p : Prefix) (km : Bytes) (vm : Option Nat) (mk : Int) :
    (strip m).listVersions b p km vm mk = m.listVersions b p km vm mk := by
  unfold Mem.listVersions
  rw [find_strip]
  cases SMap.find m.buckets b with
  | none => rfl
  | some bk =>
    simp only [Option.map_some, stripB]
    split
    · exact verLoop_strip p _ mk [] none bk.objects 0 _
    · cases p.match_ km with
      | none => rfl
      | some r =>
        rw [show (mapV stripO bk.objects).filter (fun q => !Bytes.lt q.1 km) =
          mapV stripO (bk.objects.filter (fun q => !Bytes.lt q.1 km)) from List.filter_map]
        exact verLoop_strip p _ mk km vm _ 0 _

theorem deleteMulti_hom (m : Mem) (b : Bytes) (ks : List Key) :
    (strip m).deleteMulti b ks = (strip (m.deleteMulti b ks).1, (m.deleteMulti b ks).2) := by
  unfold Mem.deleteMulti; rw [find_strip]
  cases SMap.find m.buckets b with
  | none => rfl
  | some bk =>
    simp only [Option.map_some]
    rw [List.foldl_hom strip (g₂ := fun acc k => (Mem.delete acc b k).1)]
    intro x k; simp only [delete_strip]

theorem deleteMulti_strip (m : Mem) (b : Bytes) (ks : List Key) :
    strip (m.deleteMulti b ks).1 = strip ((strip m).deleteMulti b ks).1 ∧ (m.deleteMulti b ks).2 = ((strip m).deleteMulti b ks).2 := by
  rw [deleteMulti_hom, strip_idem]; exact ⟨rfl, rfl⟩

/-- operations the memory backend runs in one lock region: the alphabet of the schedules below
    (ForceDeleteBucket, DeleteMultiVersions, ListBuckets, BucketExists and VersioningConfiguration
    are not in it) -/
inductive AOp where
  | get (b : Bytes) (k : Key)
  | getVersion (b : Bytes) (k : Key) (vid : Nat)
  | delete (b : Bytes) (k : Key)
  | deleteVersion (b : Bytes) (k : Key) (vid : Nat)
  | createBucket (b : Bytes)
  | deleteBucket (b : Bytes)
  | setVersioning (b : Bytes) (enabled : Bool)
  | list (b : Bytes) (p : Prefix) (marker : Bytes) (maxKeys : Int)
  | listVersions (b : Bytes) (p : Prefix) (keyMarker : Bytes) (verMarker : Option Nat) (maxKeys : Int)
  | deleteMulti (b : Bytes) (ks : List Key)

/-- what a client observes, metadata aside: body, length (of the body), ETag, version id, delete
    marker flag; error codes; the version id an upload was given -/
inductive Obs where
  | ver (r : Res Ver)
  | del (r : Res (Bool × Option Nat))
  | unit (r : Res Unit)
  | put (r : Res (Option Nat))
  | listing (r : Res ObjectList)
  | versions (r : Res VersionList)
  | multi (r : Res (List Key))
  | silent
deriving DecidableEq

def aop (m : Mem) : AOp → Mem × Obs
  | .get b k => (m, .ver (mapR stripV (m.get b k)))
  | .getVersion b k vid => (m, .ver (mapR stripV (m.getVersion b k vid)))
  | .delete b k => ((m.delete b k).1, .del (m.delete b k).2)
  | .deleteVersion b k vid => ((m.deleteVersion b k vid).1, .del (m.deleteVersion b k vid).2)
  | .createBucket b => ((m.createBucket b).1, .unit (m.createBucket b).2)
  | .deleteBucket b => ((m.deleteBucket b).1, .unit (m.deleteBucket b).2)
  | .setVersioning b e => ((m.setVersioning b e).1, .unit (m.setVersioning b e).2)
  | .list b p marker mk => (m, .listing (m.listBucket b p marker mk))
  | .listVersions b p km vm mk => (m, .versions (m.listVersions b p km vm mk))
  | .deleteMulti b ks => ((m.deleteMulti b ks).1, .multi (m.deleteMulti b ks).2)

theorem mapR_stripV_idem (r : Res Ver) : mapR stripV (mapR stripV r) = mapR stripV r := by
  cases r <;> rfl

/-- `strip` is a homomorphism for every atomic operation: the stripped store answers alike and
    moves to the stripped successor -/
theorem aop_hom (m : Mem) (op : AOp) : aop (strip m) op = (strip (aop m op).1, (aop m op).2) := by
  cases op <;>
    simp only [aop, get_strip, getVersion_strip, mapR_stripV_idem, delete_strip, deleteVersion_strip, createBucket_strip,
      deleteBucket_strip, setVersioning_strip, listBucket_strip, listVersions_strip, deleteMulti_hom]

theorem aop_strip (m : Mem) (op : AOp) :
    strip (aop m op).1 = strip (aop (strip m) op).1 ∧ (aop m op).2 = (aop (strip m) op).2 := by
  rw [aop_hom, strip_idem]; exact ⟨rfl, rfl⟩

theorem aop_congr (m1 m2 : Mem) (op : AOp) (h : strip m1 = strip m2) :
    strip (aop m1 op).1 = strip (aop m2 op).1 ∧ (aop m1 op).2 = (aop m2 op).2 := by
  have h1 := aop_hom m1 op
  rw [h, aop_hom m2 op] at h1
  exact Prod.ext_iff.mp h1.symm

theorem putCommit_congr (md5 : Bytes → Bytes) (m1 m2 : Mem) (b : Bytes) (k : Key) (md1 md2 : Meta) (body : Bytes)
    (h : strip m1 = strip m2) :
    strip (m1.putCommit md5 b k md1 body).1 = strip (m2.putCommit md5 b k md2 body).1 ∧
    (m1.putCommit md5 b k md1 body).2 = (m2.putCommit md5 b k md2 body).2 := by
  obtain ⟨a1, a2⟩ := putCommit_strip md5 m1 b k md1 [] body
  obtain ⟨b1, b2⟩ := putCommit_strip md5 m2 b k md2 [] body
  rw [a1, a2, b1, b2, h]
  exact ⟨rfl, rfl⟩

inductive Act where
  | merge (tid : Nat) (b : Bytes) (k : Key) (md : Meta)   -- an upload reads the existing metadata (read lock, released)
  | commit (tid : Nat) (body : Bytes)                      -- the same upload stores its object (write lock)
  | atomic (op : AOp)

structure Pend where
  tid    : Nat
  b      : Bytes
  k      : Key
  md     : Meta     -- the headers the client sent
  merged : Meta     -- what the merge step computed from the store it saw

/-- the code: the commit step uses the metadata merged at the (earlier) merge step -/
def cstep (md5 : Bytes → Bytes) (s : Mem × List Pend) : Act → (Mem × List Pend) × Obs
  | .merge t b k md => ((s.1, ⟨t, b, k, md, s.1.mergedMeta b k md⟩ :: s.2.filter (fun p => !(p.tid == t))), .silent)
  | .commit t body =>
    match s.2.find? (fun p => p.tid == t) with
    | none => (s, .silent)
    | some p => (((s.1.putCommit md5 p.b p.k p.merged body).1, s.2.filter (fun q => !(q.tid == t))),
                 .put (s.1.putCommit md5 p.b p.k p.merged body).2)
  | .atomic op => (((aop s.1 op).1, s.2), (aop s.1 op).2)

/-- the reference: the whole upload (merge and commit) happens atomically at its commit step -/
def rstep (md5 : Bytes → Bytes) (s : Mem × List Pend) : Act → (Mem × List Pend) × Obs
  | .merge t b k md => ((s.1, ⟨t, b, k, md, []⟩ :: s.2.filter (fun p => !(p.tid == t))), .silent)
  | .commit t body =>
    match s.2.find? (fun p => p.tid == t) with
    | none => (s, .silent)
    | some p => (((s.1.put md5 p.b p.k p.md body).1, s.2.filter (fun q => !(q.tid == t))),
                 .put (s.1.put md5 p.b p.k p.md body).2)
  | .atomic op => (((aop s.1 op).1, s.2), (aop s.1 op).2)

def run (step : (Mem × List Pend) → Act → (Mem × List Pend) × Obs) (s : Mem × List Pend) : List Act → (Mem × List Pend) × List Obs
  | [] => (s, [])
  | a :: as => let r := step s a; let rest := run step r.1 as; (rest.1, r.2 :: rest.2)

def SameReq (p q : Pend) : Prop := p.tid = q.tid ∧ p.b = q.b ∧ p.k = q.k ∧ p.md = q.md

inductive AllSame : List Pend → List Pend → Prop where
  | nil : AllSame [] []
  | cons {p q : Pend} {l1 l2 : List Pend} (h : SameReq p q) (t : AllSame l1 l2) : AllSame (p :: l1) (q :: l2)

theorem allSame_filter (t : Nat) {l1 l2 : List Pend} (h : AllSame l1 l2) :
    AllSame (l1.filter (fun p => !(p.tid == t))) (l2.filter (fun p => !(p.tid == t))) := by
  induction h with
  | nil => exact .nil
  | @cons p q l1 l2 hpq _ ih =>
    simp only [List.filter_cons, hpq.1]
    split
    · exact .cons hpq ih
    · exact ih

theorem allSame_find (t : Nat) {l1 l2 : List Pend} (h : AllSame l1 l2) :
    (l1.find? (fun p => p.tid == t) = none ∧ l2.find? (fun p => p.tid == t) = none) ∨
    ∃ p q, l1.find? (fun p => p.tid == t) = some p ∧ l2.find? (fun p => p.tid == t) = some q ∧ SameReq p q := by
  induction h with
  | nil => exact Or.inl ⟨rfl, rfl⟩
  | @cons p q l1 l2 hpq _ ih =>
    simp only [List.find?_cons, hpq.1]
    split
    · exact Or.inr ⟨p, q, rfl, rfl, hpq⟩
    · exact ih

def Rel (sc sr : Mem × List Pend) : Prop := strip sc.1 = strip sr.1 ∧ AllSame sc.2 sr.2

theorem step_sim (md5 : Bytes → Bytes) (sc sr : Mem × List Pend) (a : Act) (h : Rel sc sr) :
    Rel (cstep md5 sc a).1 (rstep md5 sr a).1 ∧ (cstep md5 sc a).2 = (rstep md5 sr a).2 := by
  obtain ⟨hs, hp⟩ := h
  cases a with
  | merge t b k md =>
    exact ⟨⟨hs, .cons ⟨rfl, rfl, rfl, rfl⟩ (allSame_filter t hp)⟩, rfl⟩
  | commit t body =>
    simp only [cstep, rstep]
    rcases allSame_find t hp with ⟨h1, h2⟩ | ⟨p, q, h1, h2, hpq⟩
    · rw [h1, h2]; exact ⟨⟨hs, hp⟩, rfl⟩
    · rw [h1, h2]
      obtain ⟨e1, e2, e3, e4⟩ := hpq
      simp only [Mem.put, ← e2, ← e3, ← e4]
      obtain ⟨c1, c2⟩ := putCommit_congr md5 sc.1 sr.1 p.b p.k p.merged (sr.1.mergedMeta p.b p.k p.md) body hs
      exact ⟨⟨c1, allSame_filter t hp⟩, by rw [c2]⟩
  | atomic op =>
    obtain ⟨c1, c2⟩ := aop_congr sc.1 sr.1 op hs
    exact ⟨⟨c1, hp⟩, c2⟩

/-- **schedule_linearizes** (C07): for ANY schedule — uploads split into their unlocked metadata read
    and their commit, interleaved in any order with each other and with any operations of `AOp` — the
    code's steps and the reference in which every upload happens atomically at its commit step give
    the same answer to every request and end in stores that agree on everything but stored metadata. -/
theorem schedule_linearizes (md5 : Bytes → Bytes) (acts : List Act) :
    ∀ (sc sr : Mem × List Pend), Rel sc sr →
      (run (cstep md5) sc acts).2 = (run (rstep md5) sr acts).2 ∧
      Rel (run (cstep md5) sc acts).1 (run (rstep md5) sr acts).1 :=
  Fold.run_sim (run₁ := run (cstep md5)) (run₂ := run (rstep md5)) (fun _ => rfl) (fun _ _ _ => rfl) (fun _ => rfl) (fun _ _ _ => rfl)
    (step_sim md5) acts

theorem schedule_linearizes_from (md5 : Bytes → Bytes) (m : Mem) (acts : List Act) :
    (run (cstep md5) (m, []) acts).2 = (run (rstep md5) (m, []) acts).2 ∧
    strip (run (cstep md5) (m, []) acts).1.1 = strip (run (rstep md5) (m, []) acts).1.1 := by
  obtain ⟨h1, h2, _⟩ := schedule_linearizes md5 acts (m, []) (m, []) ⟨rfl, .nil⟩
  exact ⟨h1, h2⟩

/-! Non-vacuity: two uploads to one key whose merge reads both precede both commits (the second
    commit's metadata was merged from a store that did not yet hold the first upload): the code
    and the reference end in different stores (the metadata differ) and the same `strip`. -/
def exM : Mem := ⟨[([98], ⟨.enabled, []⟩)], 0⟩
def exActs : List Act := [.merge 1 [98] [107] [([120], [1])], .merge 2 [98] [107] [([121], [2])],
  .commit 1 [65], .commit 2 [66], .atomic (.get [98] [107]), .atomic (.getVersion [98] [107] 1)]
example : (run (cstep id) (exM, []) exActs).1.1.buckets ≠ (run (rstep id) (exM, []) exActs).1.1.buckets := by decide +kernel
example : (run (cstep id) (exM, []) exActs).2 =
    [.silent, .silent, .put (.ok (some 1)), .put (.ok (some 2)), .ver (.ok ⟨2, false, [66], [66], []⟩), .ver (.ok ⟨1, false, [65], [65], []⟩)] := by
  decide +kernel

end GFS.Props.C07S
