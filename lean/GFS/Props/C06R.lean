import GFS.Props.C06F
import GFS.Props.SpecM
/-
  C06 over whole histories, against the specification machine Spec.Multipart.  `PartsRel`: the slots
  of a pending upload (uploader.go: `mpu.parts`) hold, per part number, the MOST RECENT body uploaded
  under it; it is kept by every request of every client that does not end the upload
  (`tracked_parts_exact`, from the `pending_*` equations of Props/C06F).  In such a state the check
  loop and the specification's fold accept the same lists with the same bodies
  (`checkParts_iff_specFold`), whence `validate_*` and `complete_*`.  `specFold` and
  `find_setLatest`, of this namespace, stand in Props/SpecM.
-/
namespace GFS.Props.C06R
open GFS.Model GFS.Model.Upl GFS.Props.C06 GFS.Props.C06F
open GFS.Spec.Multipart (Upload setLatest bodyOf accepted ascending)

/-- the part stored under number `i`, if any -/
def slot (parts : List (Option Part)) (i : Nat) : Option Part :=
  match parts[i]? with
  | some (some p) => some p
  | _ => none

theorem slot_eq_some {parts : List (Option Part)} {i : Nat} {p : Part} : slot parts i = some p ↔ parts[i]? = some (some p) := by
  unfold slot
  split
  · rename_i q hq; rw [hq]; simp
  · rename_i hn; exact ⟨fun h => (nomatch h), fun h => absurd h (hn p)⟩

theorem slot_pad (parts : List (Option Part)) (k i : Nat) : slot (parts ++ List.replicate k none) i = slot parts i := by
  unfold slot
  by_cases hi : i < parts.length
  · rw [List.getElem?_append_left hi]
  · rw [List.getElem?_append_right (Nat.le_of_not_lt hi), List.getElem?_eq_none (Nat.le_of_not_lt hi),
      List.getElem?_replicate]
    by_cases hk : i - parts.length < k
    · rw [if_pos hk]
    · rw [if_neg hk]

theorem slot_setPart (parts : List (Option Part)) (n i : Nat) (p : Part) :
    slot (setPart parts n p) i = if i = n then some p else slot parts i := by
  split
  · subst i; exact slot_eq_some.mpr (setPart_self parts n p)
  · rename_i h
    have hset : ∀ l : List (Option Part), slot (l.set n (some p)) i = slot l i := fun l => by
      unfold slot; rw [List.getElem?_set_ne (Ne.symm h)]
    unfold setPart
    rw [hset]
    split
    · exact slot_pad ..
    · rfl

/-- the slots of an upload against the specification's record of it -/
structure PartsRel (md5 : Bytes → Bytes) (parts : List (Option Part)) (latest : List (Nat × Bytes)) : Prop where
  bodies : ∀ i, 1 ≤ i → (slot parts i).map (·.body) = (latest.find? (·.1 == i)).map (·.2)
  hashes : ∀ i p, slot parts i = some p → p.hash = md5 p.body

theorem partsRel_nil (md5 : Bytes → Bytes) : PartsRel md5 [] [] :=
  ⟨fun i _ => by simp [slot], fun i p h => by simp [slot] at h⟩

/-- **partsRel_setPart**: a part upload (new number or re-upload) keeps the relation -/
theorem partsRel_setPart (md5 : Bytes → Bytes) (parts : List (Option Part)) (u : Upload) (n : Nat) (body : Bytes)
    (h : PartsRel md5 parts u.latest) :
    PartsRel md5 (setPart parts n ⟨body, md5 body⟩) (setLatest u n body).latest := by
  constructor
  · intro i hi
    rw [slot_setPart, find_setLatest]
    by_cases hin : i = n
    · simp [hin]
    · simp only [hin, if_false]; exact h.bodies i hi
  · intro i p hp
    rw [slot_setPart] at hp
    by_cases hin : i = n
    · simp only [hin, if_true, Option.some.injEq] at hp; subst hp; rfl
    · simp only [hin, if_false] at hp; exact h.hashes i p hp

theorem sortedInts_eq_ascending : ∀ l : List Int, sortedInts l = ascending l
  | [] => rfl
  | [_] => rfl
  | a :: b :: rest => congrArg (decide (a ≤ b) && ·) (sortedInts_eq_ascending (b :: rest))

theorem bodyOf_eq_some {md5 : Bytes → Bytes} {parts : List (Option Part)} {u : Upload} (h : PartsRel md5 parts u.latest)
    {n : Int} {body : Bytes} : bodyOf u n = some body ↔ 1 ≤ n ∧ ∃ p, slot parts n.toNat = some p ∧ p.body = body := by
  unfold bodyOf
  by_cases hn : n < 1
  · rw [if_pos hn]; exact ⟨nofun, fun c => absurd c.1 (Int.not_le.mpr hn)⟩
  · have h1 : 1 ≤ n := Int.not_lt.mp hn
    rw [if_neg hn, ← h.bodies n.toNat (Int.lt_toNat.mpr h1), Option.map_eq_some_iff]
    exact ⟨fun c => ⟨h1, c⟩, fun c => c.2⟩

theorem checkParts_iff_specFold (md5 : Bytes → Bytes) (parts : List (Option Part)) (u : Upload)
    (h : PartsRel md5 parts u.latest) (listed : List (Int × Bytes)) (bs : List Bytes) :
    (∃ ps, checkParts parts listed = .ok ps ∧ ps.map (·.body) = bs) ↔ specFold md5 u listed = some bs := by
  induction listed generalizing bs with
  | nil =>
    constructor
    · rintro ⟨ps, hc, rfl⟩; cases hc; rfl
    · intro hb; cases hb; exact ⟨[], rfl, rfl⟩
  | cons e rest ih =>
    obtain ⟨n, etag⟩ := e
    rw [specFold_cons]
    constructor
    · rintro ⟨ps, hc, rfl⟩
      obtain ⟨p, ps', rfl, hn, hp, he, hr⟩ := (checkParts_cons_ok ..).mp hc
      have hs : slot parts n.toNat = some p := slot_eq_some.mpr hp
      exact ⟨p.body, ps'.map (·.body), rfl, (bodyOf_eq_some h).mpr ⟨hn, p, hs, rfl⟩, h.hashes _ p hs ▸ he,
        (ih _).mp ⟨ps', hr, rfl⟩⟩
    · rintro ⟨body, bs', rfl, hb, he, hr⟩
      obtain ⟨ps', hc', rfl⟩ := (ih _).mpr hr
      obtain ⟨hn, p, hs, rfl⟩ := (bodyOf_eq_some h).mp hb
      exact ⟨p :: ps', (checkParts_cons_ok ..).mpr ⟨p, ps', rfl, hn, slot_eq_some.mp hs, h.hashes _ p hs ▸ he, hc'⟩, rfl⟩

/-- **validate_sound**: whatever list CompleteMultipartUpload accepts, the specification accepts,
    and the parts it assembles carry exactly the bodies the specification names (the most recent
    upload of each listed part, in the listed order) -/
theorem validate_sound (md5 : Bytes → Bytes) (m : MPU) (u : Upload) (h : PartsRel md5 m.parts u.latest)
    (listed : List (Int × Bytes)) (ps : List Part) (hv : validate m listed = .ok ps) :
    accepted md5 u listed = some (ps.map (·.body)) := by
  obtain ⟨hc, hs⟩ := validate_ok_checkParts m listed ps hv
  rw [accepted_eq, ← sortedInts_eq_ascending, hs]
  exact (checkParts_iff_specFold md5 m.parts u h listed _).mp ⟨ps, hc, rfl⟩

/-- **validate_rejects**: a list the specification refuses (not ascending, a part never uploaded,
    a part number below 1, a stale or wrong ETag) is refused with an error, never a panic -/
theorem validate_rejects (md5 : Bytes → Bytes) (m : MPU) (u : Upload) (h : PartsRel md5 m.parts u.latest)
    (listed : List (Int × Bytes)) (hr : accepted md5 u listed = none) :
    ∃ c, validate m listed = .err c := by
  cases hv : validate m listed with
  | ok ps => rw [validate_sound md5 m u h listed ps hv] at hr; cases hr
  | err c => exact ⟨c, rfl⟩
  | panic s => exact absurd hv (Res.isPanic_eq_false.mp (validate_noPanic m listed) s)

/-- the counting behind `validate_complete`: strictly ascending filled slots pass the length check -/
theorem strict_len : ∀ (l : List Int) (a M : Int), l.Pairwise (· < ·) → (∀ x ∈ l, a ≤ x ∧ x ≤ M) →
    (l.length : Int) ≤ max (M - a + 1) 0
  | [], _, _, _, _ => Int.le_max_right ..
  | x :: rest, a, M, hp, hb => by
    have hx := hb x List.mem_cons_self
    have hp' := List.pairwise_cons.mp hp
    have ih := strict_len rest (x + 1) M hp'.2 (fun y hy => ⟨Int.add_one_le_of_lt (hp'.1 y hy), (hb y (List.mem_cons_of_mem _ hy)).2⟩)
    simp only [List.length_cons]
    omega

/-- **validate_complete**: a STRICTLY ascending list the specification accepts is accepted by
    CompleteMultipartUpload, with the specification's bodies.  (For a list that repeats a part
    number the code additionally requires that the list is not longer than the slot table; the
    property speaks of ascending lists.) -/
theorem validate_complete (md5 : Bytes → Bytes) (m : MPU) (u : Upload) (h : PartsRel md5 m.parts u.latest)
    (listed : List (Int × Bytes)) (bs : List Bytes) (hs : (listed.map (·.1)).Pairwise (· < ·))
    (ha : accepted md5 u listed = some bs) :
    ∃ ps, validate m listed = .ok ps ∧ ps.map (·.body) = bs := by
  rw [accepted_eq] at ha
  split at ha
  · cases ha
  rename_i hasc
  obtain ⟨ps, hc, hbs⟩ := (checkParts_iff_specFold md5 m.parts u h listed bs).mpr ha
  refine ⟨ps, ?_, hbs⟩
  -- every listed number is a filled slot, hence inside the slot table
  have hin : ∀ x ∈ listed.map (·.1), (1 : Int) ≤ x ∧ x ≤ (m.parts.length : Int) - 1 := by
    intro x hx
    obtain ⟨i, hi, rfl⟩ := List.getElem_of_mem hx
    obtain ⟨h1, p, hp, -⟩ := (checkParts_spec m.parts listed ps hc).2 i (by simpa using hi)
    rw [List.getElem_map]
    exact ⟨h1, Int.le_sub_one_of_lt (Int.lt_of_toNat_lt (List.getElem?_eq_some_iff.mp hp).1)⟩
  have hlen := strict_len (listed.map (·.1)) 1 ((m.parts.length : Int) - 1) hs hin
  simp only [List.length_map] at hlen
  have hlen' : ¬ listed.length > m.parts.length := by omega
  unfold validate
  simp only [hlen', if_false, sortedInts_eq_ascending, hasc, hc]
  rfl

/-- the ETag of the assembled object is the specification's -/
theorem mpEtag_eq (md5 : Bytes → Bytes) (ps : List Part) (h : ∀ p ∈ ps, p.hash = md5 p.body) :
    mpEtag md5 ps = Spec.Multipart.etag md5 (ps.map (·.body)) := by
  unfold mpEtag Spec.Multipart.etag natBytes
  have : ps.map (·.hash) = (ps.map (·.body)).map md5 := by
    rw [List.map_map]
    exact List.map_congr_left h
  rw [this, List.length_map]

/-- upload `i0` of (b0, k0) is pending and its slots hold what the specification's record says -/
def TRel (md5 : Bytes → Bytes) (u : Upl) (b0 : Bytes) (k0 : Key) (i0 : Nat) (up : Upload) : Prop :=
  ∃ m, pending u b0 k0 i0 = some m ∧ PartsRel md5 m.parts up.latest

theorem validate_hashes {md5 : Bytes → Bytes} {m : MPU} {latest : List (Nat × Bytes)} (h : PartsRel md5 m.parts latest)
    {listed : List (Int × Bytes)} {ps : List Part} (hv : validate m listed = .ok ps) : ∀ p ∈ ps, p.hash = md5 p.body := by
  obtain ⟨hl, hall⟩ := checkParts_spec m.parts listed ps (validate_ok_checkParts m listed ps hv).1
  intro p hp
  obtain ⟨i, hi, rfl⟩ := List.getElem_of_mem hp
  obtain ⟨-, q, hq, hqi, -⟩ := hall i (hl ▸ hi)
  cases (List.getElem?_eq_getElem hi).symm.trans hqi
  exact h.hashes _ _ (slot_eq_some.mpr hq)

/-- **complete_sound**: an acknowledged complete stored exactly what the specification says —
    the list is one the specification accepts, the object is the concatenation of the most recent
    bodies of the listed parts under the initiation metadata, the ETag is the specification's,
    and nothing is pending under the upload id afterwards -/
theorem complete_sound (md5 : Bytes → Bytes) (u : Upl) (hk : Keyed u) (mem : Mem) (b : Bytes) (k : Key) (id : Nat)
    (up : Upload) (listed : List (Int × Bytes)) (vid : Option Nat) (etag : Bytes)
    (ht : TRel md5 u b k id up) (h : (complete md5 u mem b k id listed).2.2 = .ok (vid, etag)) :
    ∃ m bs, pending u b k id = some m ∧ accepted md5 up listed = some bs ∧
      etag = Spec.Multipart.etag md5 bs ∧
      (complete md5 u mem b k id listed).2.1 = (mem.put md5 b k m.md (Spec.Multipart.assemble bs)).1 ∧
      pending (complete md5 u mem b k id listed).1 b k id = none := by
  obtain ⟨m0, hp0, hrel⟩ := ht
  obtain ⟨bu0, hg0⟩ := pending_eq_some.mp hp0
  rcases complete_cases md5 u mem b k id listed with ⟨bu, m, ps, mem', vid', hg, hv, hput, e⟩ | ⟨_, e⟩
  · obtain ⟨-, -, rfl⟩ := get_unique hg hg0
    rw [e] at h ⊢
    cases h
    refine ⟨m, ps.map (·.body), hp0, ?_, ?_, ?_, ?_⟩
    · exact validate_sound md5 m up hrel listed ps hv
    · exact mpEtag_eq md5 ps (validate_hashes hrel hv)
    · rw [Spec.Multipart.assemble, hput]
    · exact (pending_remove hk hg ..).trans (if_pos ⟨rfl, rfl, rfl⟩)
  · rw [e] at h; cases h

/-- **complete_refuses**: a list the specification refuses is answered with an error and changes
    neither the stored objects nor the pending uploads -/
theorem complete_refuses (md5 : Bytes → Bytes) (u : Upl) (mem : Mem) (b : Bytes) (k : Key) (id : Nat)
    (up : Upload) (listed : List (Int × Bytes)) (ht : TRel md5 u b k id up) (hr : accepted md5 up listed = none) :
    (∃ c, (complete md5 u mem b k id listed).2.2 = .err c) ∧
    (complete md5 u mem b k id listed).1 = u ∧ (complete md5 u mem b k id listed).2.1 = mem := by
  obtain ⟨m, hp, hrel⟩ := ht
  obtain ⟨bu, hg⟩ := pending_eq_some.mp hp
  obtain ⟨c, hc⟩ := validate_rejects md5 m up hrel listed hr
  rw [complete_of_validate_err hg hc]
  exact ⟨⟨c, rfl⟩, rfl, rfl⟩

/-- **complete_accepts**: a strictly ascending list the specification accepts is stored whenever
    the backend accepts the object: the answer carries the specification's ETag -/
theorem complete_accepts (md5 : Bytes → Bytes) (u : Upl) (mem : Mem) (b : Bytes) (k : Key) (id : Nat)
    (up : Upload) (listed : List (Int × Bytes)) (bs : List Bytes) (ht : TRel md5 u b k id up)
    (hs : (listed.map (·.1)).Pairwise (· < ·)) (ha : accepted md5 up listed = some bs) :
    ∃ m, pending u b k id = some m ∧
      ∀ vid, (mem.put md5 b k m.md (Spec.Multipart.assemble bs)).2 = .ok vid →
        (complete md5 u mem b k id listed).2.2 = .ok (vid, Spec.Multipart.etag md5 bs) ∧
        (complete md5 u mem b k id listed).2.1 = (mem.put md5 b k m.md (Spec.Multipart.assemble bs)).1 := by
  obtain ⟨m, hp, hrel⟩ := ht
  obtain ⟨bu, hg⟩ := pending_eq_some.mp hp
  obtain ⟨ps, hv, rfl⟩ := validate_complete md5 m up hrel listed bs hs ha
  refine ⟨m, hp, fun vid hput => ?_⟩
  rw [complete_of_put_ok hg hv (Prod.ext rfl hput), mpEtag_eq md5 ps (validate_hashes hrel hv)]
  exact ⟨rfl, rfl⟩

open GFS.Props.C14I (Op step)

def UB (N : Nat) (bu : BUps) : Prop := ∀ p ∈ bu.uploads, p.1 ≤ N
/-- every upload id in the bookkeeping is at most the counter: the next id is new -/
def UBound (u : Upl) : Prop := ∀ b bu, SMap.find u.buckets b = some bu → UB u.nextId bu

theorem ubound : UplInv (fun _ N => UB N) (fun _ => True) UBound where
  find h hb := h _ _ hb
  insert h hN hb := SMap.forall_find_insert (P := fun _ => UB _) (fun j w hj p hp => Nat.le_trans (h j w hj p hp) hN) hb
  fresh _ _ := List.forall_mem_nil _
  add _ _ _ h := BUps.forall_add (fun p hp => Nat.le_succ_of_le (h p hp)) (Nat.le_refl _)
  set _ _ _ h := BUps.forall_set h fun p hp _ => h p hp
  remove _ _ h := BUps.forall_remove _ h

theorem UB.fresh {N : Nat} {bu : BUps} (h : UB N bu) : bu.find (N + 1) = none := by
  cases hq : bu.find (N + 1) with
  | none => rfl
  | some m => exact absurd (h _ (BUps.find_mem hq)) (Nat.not_succ_le_self _)

theorem pending_le {u : Upl} (h : UBound u) {b : Bytes} {k : Key} {id : Nat} {m : MPU} (hp : pending u b k id = some m) :
    id ≤ u.nextId := by
  obtain ⟨bu, hg⟩ := pending_eq_some.mp hp
  obtain ⟨hb, hf, -⟩ := get_eq_ok.mp hg
  exact h b bu hb _ (BUps.find_mem hf)

/-- what the specification records for the tracked upload: a part upload addressed to it (with a
    part number the server admits) replaces the most recent body of that number -/
def track (b0 : Bytes) (k0 : Key) (i0 : Nat) (up : Upload) : Op → Upload
  | .part b k id n _ body =>
    if b = b0 ∧ k = k0 ∧ id = i0 ∧ n ≤ MaxUploadPartNumber then setLatest up n body else up
  | _ => up

/-- requests that end the tracked upload's life -/
def Ends (b0 : Bytes) (k0 : Key) (i0 : Nat) : Op → Prop
  | .abort b k id => b = b0 ∧ k = k0 ∧ id = i0
  | .complete b k id _ => b = b0 ∧ k = k0 ∧ id = i0
  | _ => False

/-- part uploads declare the length of the body they carry (others are refused, C08) -/
def Honest : Op → Prop
  | .part _ _ _ _ d body => d = (body.length : Int)
  | _ => True

structure SInv (s : Srv) : Prop where
  keyed : Keyed s.upl
  bound : UBound s.upl

theorem step_sinv (md5 : Bytes → Bytes) (s : Srv) (op : Op) (h : SInv s) : SInv (step md5 s op) :=
  ⟨keyed.step md5 h.keyed, ubound.step md5 h.bound⟩

/-- **tracked_step**: one request of any client — on this upload, on another upload of the same
    key, on another key or bucket, or a change of the store — keeps the tracked upload pending
    with slots that hold exactly the most recent body per part number -/
theorem tracked_step (md5 : Bytes → Bytes) (s : Srv) (op : Op) (b0 : Bytes) (k0 : Key) (i0 : Nat) (up : Upload)
    (hi : SInv s) (ht : TRel md5 s.upl b0 k0 i0 up) (he : ¬ Ends b0 k0 i0 op) (hh : Honest op) :
    TRel md5 (step md5 s op).upl b0 k0 i0 (track b0 k0 i0 up op) := by
  obtain ⟨m, hp, hrel⟩ := ht
  cases op with
  | store m' => exact ⟨m, hp, hrel⟩
  | initiate b k md =>
    have hle := pending_le hi.bound hp
    exact ⟨m, (pending_create ..).trans ((if_neg fun c => by omega).trans hp), hrel⟩
  | abort b k id =>
    exact ⟨m, (pending_abort hi.keyed ..).trans ((if_neg fun c => he ⟨c.1.symm, c.2.1.symm, c.2.2.symm⟩).trans hp), hrel⟩
  | complete b k id listed =>
    exact ⟨m, (pending_complete hi.keyed ..).trans ((if_neg fun c => he ⟨c.1.symm, c.2.1.symm, c.2.2.1.symm⟩).trans hp), hrel⟩
  | part b k id n d body =>
    simp only [TRel, step, track]
    rw [pending_uploadPart hi.keyed, hp]
    by_cases c : b0 = b ∧ k0 = k ∧ i0 = id ∧ n ≤ MaxUploadPartNumber
    · -- addressed to the tracked upload and honest about its length: the part is stored
      rw [if_pos ⟨c.1, c.2.1, c.2.2.1, c.2.2.2, hh.symm⟩, if_pos ⟨c.1.symm, c.2.1.symm, c.2.2.1.symm, c.2.2.2⟩]
      exact ⟨_, rfl, partsRel_setPart md5 m.parts up n body hrel⟩
    · rw [if_neg fun c' => c ⟨c'.1, c'.2.1, c'.2.2.1, c'.2.2.2.1⟩, if_neg fun c' => c ⟨c'.1.symm, c'.2.1.symm, c'.2.2.1.symm, c'.2.2.2⟩]
      exact ⟨m, rfl, hrel⟩

/-- **tracked_parts_exact**: after every finite interleaving of initiate / upload-part / abort /
    complete requests of any clients (and changes of the store) in which every part upload declares
    the length of the body it carries (`Honest`) and none aborts or completes this upload, it is still
    pending and its slots hold, per part number, exactly the most recent body uploaded under it.
    With `complete_sound` / `_accepts` / `_refuses`: C06 for every such history. -/
theorem tracked_parts_exact (md5 : Bytes → Bytes) (b0 : Bytes) (k0 : Key) (i0 : Nat) (ops : List Op) :
    ∀ (s : Srv) (up : Upload), SInv s → TRel md5 s.upl b0 k0 i0 up →
      (∀ op ∈ ops, ¬ Ends b0 k0 i0 op ∧ Honest op) →
      SInv (ops.foldl (step md5) s) ∧
      TRel md5 (ops.foldl (step md5) s).upl b0 k0 i0 (ops.foldl (track b0 k0 i0) up) := by
  intro s up hi ht hall
  exact Fold.foldl_rel (R := fun s up => SInv s ∧ TRel md5 s.upl b0 k0 i0 up) ops s up
    (fun s up op hop h => ⟨step_sinv md5 s op h.1, tracked_step md5 s op b0 k0 i0 up h.1 h.2 (hall op hop).1 (hall op hop).2⟩)
    ⟨hi, ht⟩

set_option linter.unusedVariables false in
/-- a newly initiated upload is pending with no parts: related to the specification's empty record -/
theorem initiate_related (md5 : Bytes → Bytes) (u : Upl) (hb : UBound u) (b : Bytes) (k : Key) (md : Meta) :
    TRel md5 (u.create b k md).1 b k (u.nextId + 1) ⟨u.nextId + 1, b, k, []⟩ :=
  ⟨⟨u.nextId + 1, b, k, md, []⟩, by rw [pending_create, if_pos ⟨rfl, rfl⟩, if_pos rfl], partsRel_nil md5⟩

theorem sinv_empty (mem : Mem) : SInv ⟨mem, Upl.empty⟩ :=
  ⟨keyed_empty, nofun⟩

/-! Non-vacuity: two uploads of one key; parts 2, 1, 2 (again) for the first in between parts of the
    second, which is then aborted: the first is still pending, the record holds the re-uploaded body of
    part 2, and the history meets the hypotheses of `tracked_parts_exact`. -/
def exOps : List Op :=
  [.initiate [98] [107] [], .part [98] [107] 1 2 1 [7], .part [98] [107] 2 1 1 [9], .part [98] [107] 1 1 1 [5],
   .part [98] [107] 1 2 1 [8], .abort [98] [107] 2]
def exS : Srv := exOps.foldl (step id) ⟨(Mem.createBucket Mem.empty [98]).1, (Upl.create Upl.empty [98] [107] []).1⟩
example : (pending exS.upl [98] [107] 1).isSome = true ∧
    (exOps.foldl (track [98] [107] 1) ⟨1, [98], [107], []⟩).latest = [(1, [5]), (2, [8])] := by decide +kernel
example : (∀ op ∈ exOps, ¬ Ends [98] [107] 1 op ∧ Honest op) := by
  intro op hop
  simp only [exOps, List.mem_cons, List.mem_nil_iff, or_false] at hop
  rcases hop with rfl | rfl | rfl | rfl | rfl | rfl <;> simp [Ends, Honest]

end GFS.Props.C06R
