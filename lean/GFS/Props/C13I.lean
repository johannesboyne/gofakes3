import GFS.Props.C13W
import GFS.Props.C13S
/-
  C13: the store invariant (Props/C13S) gives `Good`, the hypothesis of the paging theorem
  (Props/C13W), in every store reached by operations that name no empty key — so following the
  returned markers is exact in every such store.
-/
namespace GFS.Props.C13I
open GFS.Model GFS.Props.C13W

theorem objOK_of_objB {N : Nat} {o : Obj} (h : ObjB N o) : ObjOK o := by
  obtain ⟨d, h1, h2, h3, _⟩ := h
  exact ⟨d, h1, h2, h3⟩

theorem good_of_inv {m : Mem} {b : Bytes} {bk : Bucket} (hm : MInv m) (hk : KeysNE m)
    (hb : SMap.find m.buckets b = some bk) : Good bk.objects :=
  have hi := hm _ (SMap.find_some_mem hb)
  ⟨hi.1, fun q hq => objOK_of_objB (hi.2 q hq), hk _ (SMap.find_some_mem hb)⟩

/-- **reachable_good**: every bucket of a store reached from the empty one by operations that
    name no empty key satisfies `Good`, the hypothesis of the paging theorem -/
theorem reachable_good (md5 : Bytes → Bytes) (ops : List Op) (hops : ∀ op ∈ ops, OpKeysNE op)
    (b : Bytes) (bk : Bucket) (hb : SMap.find (ops.foldl (step md5) Mem.empty).buckets b = some bk) :
    Good bk.objects :=
  good_of_inv (store_always_good md5 ops)
    (Fold.foldl_inv ops _ (fun s op ho => step_keys md5 s op (hops op ho)) bkeys.empty) hb

/-- **reachable_versions_walk_exact**: in every reachable store, for every bucket, prefix,
    delimiter and page size `L ≥ 1`, following the returned NextKeyMarker / NextVersionIdMarker
    visits exactly the entries of the unpaginated version listing, none skipped or repeated. -/
theorem reachable_versions_walk_exact (md5 : Bytes → Bytes) (ops : List Op) (hops : ∀ op ∈ ops, OpKeysNE op)
    (b : Bytes) (bk : Bucket) (hb : SMap.find (ops.foldl (step md5) Mem.empty).buckets b = some bk)
    (p : Prefix) (L : Int) (hL : 1 ≤ L) :
    let m := ops.foldl (step md5) Mem.empty
    let pages := walk m b p L ((bk.objects.flatMap (C13L.entriesOfKey p (bk.versioning == .none))).length + 1) [] none
    pages.flatMap (·.entries) = bk.objects.flatMap (C13L.entriesOfKey p (bk.versioning == .none)) ∧
    pages.getLast?.map (·.truncated) = some false ∧
    ∀ r ∈ pages, (r.entries.length : Int) ≤ L :=
  versions_walk_exact _ b bk hb p L hL (reachable_good md5 ops hops b bk hb)

/-! Non-vacuity: a reachable store with an archived version, a delete marker and a second key; pages of two. -/
def exOps : List Op := [.createBucket [120], .setVersioning [120] true, .put [120] [97] [] [1], .put [120] [97] [] [2],
  .delete [120] [97], .put [120] [98] [] [3], .deleteVersion [120] [97] 2]

example : ∀ op ∈ exOps, OpKeysNE op := by
  intro op h
  simp only [exOps, List.mem_cons, List.mem_nil_iff, or_false] at h
  rcases h with rfl | rfl | rfl | rfl | rfl | rfl | rfl <;> simp [OpKeysNE]

example : (walk (exOps.foldl (step fun _ => []) Mem.empty) [120] ⟨false, [], false, 0⟩ 2 5 [] none).map
    (fun r => (r.entries.map (fun e => (e.vid, e.marker)), r.truncated, r.nextKey, r.nextVer)) =
    [([(some 1, false), (some 3, true)], true, [98], some 4), ([(some 4, false)], false, [], none)] := by decide +kernel

end GFS.Props.C13I
