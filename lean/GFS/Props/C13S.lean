import GFS.Lemmas.MemOps
/-
  The store invariant of s3mem: in every bucket the keys ascend, every object has a current
  version, its archived ids ascend strictly and lie below the current one, and every id is at most
  the generator's counter.  It is kept by the steps of a bucket (`binv`), hence by every operation
  of the store (`step_inv`, `store_always_good`); so is "no key is empty" (`bkeys`, `step_keys`), as
  long as no upload names an empty key.  The requests `Op`, `step`, and `step_all` (a `BucketInv` is
  kept by every request) stand at the end of Lemmas/MemOps.
-/
namespace GFS.Props.C13I
open GFS.Model

def ObjB (N : Nat) (o : Obj) : Prop :=
  ∃ d, o.data = some d ∧ o.versions.Pairwise (fun a b => a.id < b.id) ∧ (∀ v ∈ o.versions, v.id < d.id) ∧ d.id ≤ N

def BInv (N : Nat) (bk : Bucket) : Prop := SMap.Sorted bk.objects ∧ ∀ q ∈ bk.objects, ObjB N q.2

def MInv (m : Mem) : Prop := ∀ q ∈ m.buckets, BInv m.nextVer q.2

theorem objB_mono {N N' : Nat} (h : N ≤ N') {o : Obj} (ho : ObjB N o) : ObjB N' o := by
  obtain ⟨d, h1, h2, h3, h4⟩ := ho
  exact ⟨d, h1, h2, h3, by omega⟩

theorem bInv_mono {N N' : Nat} (h : N ≤ N') {bk : Bucket} (hb : BInv N bk) : BInv N' bk :=
  ⟨hb.1, fun q hq => objB_mono h (hb.2 q hq)⟩

theorem archived_id_ne {vs : List Ver} {n : Nat} (h : ∀ v ∈ vs, v.id < n) : ∀ v ∈ vs, (v.id == n) = false :=
  fun v hv => beq_false_of_ne (Nat.ne_of_lt (h v hv))

/-- while Enabled an upload archives the whole object under the new current version -/
theorem push_versions {N : Nat} {o : Obj} (item : Ver) (h : o = ⟨none, []⟩ ∨ ObjB N o) :
    (o.push true item).versions = o.versions ++ o.data.toList := by
  rcases h with rfl | ⟨d, h1, _, h3, _⟩
  · rfl
  · simp only [Obj.push, if_true, h1, insertVer_append h3, Option.toList]

/-- an upload over nothing, or over an object below the new id -/
theorem push_objB {N : Nat} {o : Obj} {e : Bool} {item : Ver} (ho : o = ⟨none, []⟩ ∨ ObjB N o) (hid : N < item.id) :
    ObjB item.id (o.push e item) := by
  rcases ho with rfl | ⟨d, h1, h2, h3, h4⟩
  · cases e <;> exact ⟨item, rfl, .nil, fun _ h => (List.not_mem_nil h).elim, Nat.le_refl _⟩
  · have hd : d.id < item.id := Nat.lt_of_le_of_lt h4 hid
    refine ⟨item, rfl, ?_⟩
    cases e with
    | false => exact ⟨h2, fun v hv => Nat.lt_trans (h3 v hv) hd, Nat.le_refl _⟩
    | true =>
      rw [push_versions item (.inr ⟨d, h1, h2, h3, h4⟩), h1]
      refine ⟨List.pairwise_append.mpr ⟨h2, List.pairwise_singleton _ _, fun a ha b hb => List.mem_singleton.mp hb ▸ h3 a ha⟩, ?_, Nat.le_refl _⟩
      intro v hv
      rcases List.mem_append.mp hv with hv | hv
      · exact Nat.lt_trans (h3 v hv) hd
      · cases List.mem_singleton.mp hv; exact hd

/-- `promote` of an object that has just lost its current version -/
theorem promote_inv (N : Nat) (vs : List Ver) (hpw : vs.Pairwise (fun a b => a.id < b.id)) (hb : ∀ v ∈ vs, v.id ≤ N)
    (hne : vs ≠ []) : ObjB N (({ data := none, versions := vs } : Obj).promote) := by
  obtain ⟨ws, l, rfl⟩ : ∃ ws l, vs = ws ++ [l] := ⟨_, _, (List.dropLast_concat_getLast hne).symm⟩
  rw [show Obj.promote ⟨none, ws ++ [l]⟩ = ⟨some l, ws⟩ from Obj.dropCurrent_concat none ws l]
  have hp := List.pairwise_append.mp hpw
  exact ⟨l, rfl, hp.1, fun v hv => hp.2.2 v hv l (by simp), hb l (by simp)⟩

theorem promote_nil : (({ data := none, versions := [] } : Obj).promote).data = none := by
  simp [Obj.promote]

theorem dropCurrent_objB {N : Nat} {o : Obj} (h : ObjB N o) : o.dropCurrent.Gone ∨ ObjB N o.dropCurrent := by
  obtain ⟨d, h1, h2, h3, h4⟩ := h
  by_cases hne : o.versions = []
  · exact .inl (Obj.dropCurrent_gone (by rw [Obj.dropCurrent_eq, hne]; rfl))
  · exact .inr (promote_inv N o.versions h2 (fun v hv => Nat.le_trans (Nat.le_of_lt (h3 v hv)) h4) hne)

theorem filterArchived_objB {N : Nat} {o : Obj} (h : ObjB N o) (p : Ver → Bool) : ObjB N { o with versions := o.versions.filter p } := by
  obtain ⟨d, h1, h2, h3, h4⟩ := h
  exact ⟨d, h1, h2.filter _, fun v hv => h3 v (List.mem_filter.mp hv).1, h4⟩

theorem old_objB {N : Nat} {bk : Bucket} {k : Key} (hob : ∀ o, SMap.find bk.objects k = some o → ObjB N o) :
    bk.old k = ⟨none, []⟩ ∨ ObjB N (bk.old k) :=
  Bucket.old_rec (P := fun o => o = ⟨none, []⟩ ∨ ObjB N o) (.inl rfl) fun o ho => .inr (hob o ho)

theorem objB_of_mInv {m : Mem} {b : Bytes} {bk : Bucket} (hm : MInv m) (hb : SMap.find m.buckets b = some bk) (k : Key) :
    ∀ o, SMap.find bk.objects k = some o → ObjB m.nextVer o :=
  fun _ ho => (hm _ (SMap.find_some_mem hb)).2 _ (SMap.find_some_mem ho)

theorem storeObj_inv {N : Nat} {bk : Bucket} (name : Key) {o : Obj} (h : BInv N bk) (ho : o.Gone ∨ ObjB N o) :
    BInv N (bk.storeObj name o) :=
  ⟨Bucket.storeObj_sorted name o h.1, Bucket.storeObj_all h.2 ho.resolve_left⟩

theorem put_inv (N : Nat) (bk : Bucket) (name : Key) (item : Ver) (h : BInv N bk) (hid : N < item.id) :
    BInv item.id (bk.put name item) := by
  rw [Bucket.put_eq]
  exact storeObj_inv name (bInv_mono (Nat.le_of_lt hid) h)
    (.inr (push_objB (old_objB fun o hf => h.2 _ (SMap.find_some_mem hf)) hid))

/-- `BInv` is kept by the steps of a bucket, hence `MInv` by every operation of the store (`BucketInv.*`) -/
theorem binv : BucketInv BInv (fun _ => True) where
  mono hN h := bInv_mono hN h
  fresh _ := ⟨SMap.sorted_nil, nofun⟩
  setV _ h := h
  bput k item _ hid h := put_inv _ _ k item h hid
  held _ _ _ _ := trivial
  store k _ h ho :=
    have hob := h.2 _ (SMap.find_some_mem ho)
    ⟨storeObj_inv k h (dropCurrent_objB hob), fun p => storeObj_inv k h (.inr (filterArchived_objB hob p))⟩

theorem rm_inv (N : Nat) (bk : Bucket) (name : Key) (fresh : Nat) (h : BInv N bk) (hid : N < fresh) :
    BInv fresh (bk.rm name fresh).1 :=
  bInv_mono (by split <;> omega) (binv.rm name hid h)

theorem rmVersion_inv (N : Nat) (bk : Bucket) (name : Key) (vid : Nat) (h : BInv N bk) :
    BInv N (bk.rmVersion name vid).1 :=
  binv.rmVersion name vid h

theorem delete_inv (m : Mem) (b : Bytes) (k : Key) (h : MInv m) : MInv (m.delete b k).1 := binv.delete h b k

theorem step_inv (md5 : Bytes → Bytes) (m : Mem) (op : Op) (h : MInv m) : MInv (step md5 m op) :=
  step_all binv md5 (fun _ _ _ _ _ => trivial) h

/-- **store_always_good**: after any sequence of store operations from the empty store, every
    bucket satisfies the object part of `C13W.Good` (keys ascending; every object has a current
    version; archived ids strictly ascending and below the current one) -/
theorem store_always_good (md5 : Bytes → Bytes) (ops : List Op) :
    MInv (ops.foldl (step md5) Mem.empty) :=
  Fold.foldl_inv ops _ (fun s op _ => step_inv md5 s op) binv.empty

/-! ### keys are non-empty (the HTTP surface cannot name an empty key) -/

def BK (bk : Bucket) : Prop := ∀ r ∈ bk.objects, r.1 ≠ []
def KeysNE (m : Mem) : Prop := ∀ q ∈ m.buckets, BK q.2

theorem bkeys : BucketInv (fun _ => BK) (· ≠ []) where
  mono _ h := h
  fresh _ := nofun
  setV _ h := h
  bput k item hk _ h := by rw [Bucket.put_eq]; exact Bucket.storeObj_all h fun _ => hk
  held k o h ho := h _ (SMap.find_some_mem ho)
  store k o h ho :=
    have hk : k ≠ [] := h _ (SMap.find_some_mem ho)
    ⟨Bucket.storeObj_all h fun _ => hk, fun _ => Bucket.storeObj_all h fun _ => hk⟩

def OpKeysNE : Op → Prop
  | .put _ k _ _ => k ≠ []
  | _ => True

theorem step_keys (md5 : Bytes → Bytes) (m : Mem) (op : Op) (hop : OpKeysNE op) (h : KeysNE m) : KeysNE (step md5 m op) :=
  step_all bkeys md5 (fun _ _ _ _ e => by subst e; exact hop) h

end GFS.Props.C13I
