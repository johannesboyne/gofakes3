import GFS.Props.FsL
import GFS.Lemmas.KeyPath
import GFS.Lemmas.BytesLemmas
/-
  C03 for the '/'-delimited (ReadDir) listing of the fs backends, `listDir`, against the specification.
  `Prefix.Match` on the key of an object file is put in terms of where the file lies relative to the
  directory part `A` of the prefix (`match_file`: the file is `A ++ y :: tl`, `y` starting with the name
  part); in that form the tree invariant (ancestors of files are directories, every directory holds a
  file below it) applies literally.
-/
namespace GFS.Props.FsD
open GFS.Model GFS.Model.Fs GFS.Model.FsB GFS.Bytes GFS.Props.FsInv GFS.Props.FsR GFS.Props.FsL
open GFS.Props.C03M

theorem match_path_cases (hasP : Bool) (pfx k : Bytes) (f : Path) (hk : keyPath k = some f) (hp : pfx.head? ≠ some 47) :
    (⟨hasP, pfx, true, 47⟩ : Prefix).match_ k =
      (if f.length < (splitOn1 47 pfx).length then none
       else if !partsMatch f (splitOn1 47 pfx) then none
       else if f.length = (splitOn1 47 pfx).length then some (false, k)
       else some (true, join1 47 (f.take (splitOn1 47 pfx).length) ++ [47])) := by
  rw [match_trimmed hasP hp (keyPath_head hk), matchD_cases pfx (keyPath_last hk), ← keyPath_eq hk]

theorem below_iff (A : List Bytes) (part : Bytes) (f : Path) :
    (A.length < f.length ∧ f.take A.length = A ∧ Bytes.hasPrefix ((f.drop A.length).head?.getD []) part = true) ↔
      ∃ x tl, f = A ++ x :: tl ∧ Bytes.hasPrefix x part = true := by
  constructor
  · rintro ⟨h1, h2, h3⟩
    rcases hd : f.drop A.length with _ | ⟨x, tl⟩
    · exact absurd (List.drop_eq_nil_iff.mp hd) (Nat.not_le.mpr h1)
    · rw [hd] at h3
      exact ⟨x, tl, by rw [← hd, ← h2, List.length_take, Nat.min_eq_left (Nat.le_of_lt h1), List.take_append_drop], h3⟩
  · rintro ⟨x, tl, rfl, h⟩
    exact ⟨by simp, by simp, by simpa using h⟩

/-- the directory part of a prefix, as segments -/
def preA (pfx : Bytes) : List Bytes :=
  match lastIndexOf 47 pfx with
  | none => []
  | some i => splitOn1 47 (pfx.take i)

/-- the name part of a prefix -/
def prePart (pfx : Bytes) : Bytes :=
  match lastIndexOf 47 pfx with
  | none => pfx
  | some i => pfx.drop (i + 1)

theorem pre_split (pfx : Bytes) : splitOn1 47 pfx = preA pfx ++ [prePart pfx] := by
  unfold preA prePart
  rcases lastIndexOf_spec 47 pfx with ⟨hn, hni⟩ | ⟨a, b, hs, rfl, hb⟩
  · rw [hn]; exact splitOn1_of_notMem hni
  · rw [hs]
    dsimp only
    rw [List.take_left, List.drop_length_add_append, List.drop_one, List.tail_cons, splitOn1_append_sep,
      splitOn1_of_notMem hb]

theorem classify (hasP : Bool) (pfx k : Bytes) (f : Path) (hk : keyPath k = some f) (hp : pfx.head? ≠ some 47) :
    (⟨hasP, pfx, true, 47⟩ : Prefix).match_ k =
      (if (preA pfx).length < f.length ∧ f.take (preA pfx).length = preA pfx ∧
          Bytes.hasPrefix ((f.drop (preA pfx).length).head?.getD []) (prePart pfx) = true
       then (if f.length = (preA pfx).length + 1 then some (false, k)
             else some (true, join1 47 (f.take ((preA pfx).length + 1)) ++ [47]))
       else none) := by
  rw [match_path_cases hasP pfx k f hk hp, pre_split pfx]
  have hpm := (partsMatch_iff (prePart pfx) (preA pfx) f).trans (below_iff (preA pfx) (prePart pfx) f).symm
  generalize preA pfx = A at *
  generalize prePart pfx = part at *
  simp only [List.length_append, List.length_singleton]
  by_cases hc : A.length < f.length ∧ f.take A.length = A ∧ Bytes.hasPrefix ((f.drop A.length).head?.getD []) part = true
  · have h1 : ¬ f.length < A.length + 1 := by omega
    have h2 : partsMatch f (A ++ [part]) = true := hpm.mpr hc
    simp only [h1, if_false, h2, Bool.not_true, Bool.false_eq_true, hc, and_self, if_true]
  · simp only [hc, if_false]
    by_cases h1 : f.length < A.length + 1
    · simp [h1]
    · have h2 : partsMatch f (A ++ [part]) = false := by
        cases hm : partsMatch f (A ++ [part]) with
        | false => rfl
        | true => exact absurd (hpm.mp hm) hc
      simp [h1, h2]

def goodSegB (s : Bytes) : Bool := !s.isEmpty && s != [46] && s != [46, 46]

/-- the entry test of `listDir` -/
def inDirB (A : List Bytes) (part : Bytes) (f : Path) : Bool :=
  !f.isEmpty && f.dropLast == A && Bytes.hasPrefix (f.getLast?.getD []) part

theorem inDirB_iff (A : List Bytes) (part : Bytes) (f : Path) :
    inDirB A part f = true ↔ ∃ x, f = A ++ [x] ∧ Bytes.hasPrefix x part = true := by
  rcases List.eq_nil_or_concat f with rfl | ⟨g, x, rfl⟩
  · simp [inDirB]
  · simp only [inDirB, List.concat_eq_append, List.dropLast_concat, List.getLast?_concat]
    simp
    constructor
    · rintro ⟨rfl, h⟩; exact ⟨x, ⟨rfl, rfl⟩, h⟩
    · rintro ⟨y, ⟨rfl, rfl⟩, hy⟩; exact ⟨rfl, hy⟩

theorem filePrefix_eq (pfx : Bytes) :
    filePrefix ⟨!pfx.isEmpty, pfx, true, 47⟩ =
      (match lastIndexOf 47 pfx with
       | none => ([], pfx)
       | some i => (pfx.take i, pfx.drop (i + 1))) := by
  unfold filePrefix
  cases pfx with
  | nil => simp [lastIndexOf]
  | cons x xs => cases lastIndexOf 47 (x :: xs) <;> rfl

theorem filePrefix_keyPath (pfx : Bytes) (hp : pfx.head? ≠ some 47) :
    (if (filePrefix ⟨!pfx.isEmpty, pfx, true, 47⟩).1.isEmpty then some []
     else keyPath (filePrefix ⟨!pfx.isEmpty, pfx, true, 47⟩).1) =
    (if (preA pfx).all goodSegB then some (preA pfx) else none) ∧
    (filePrefix ⟨!pfx.isEmpty, pfx, true, 47⟩).2 = prePart pfx := by
  rw [filePrefix_eq]
  unfold preA prePart
  rcases lastIndexOf_spec 47 pfx with ⟨hn, _⟩ | ⟨a, b, hs, rfl, _⟩
  · rw [hn]; simp
  · rw [hs]
    -- the directory part `a` is not empty: the prefix does not start with '/'
    have hemp : ((a ++ 47 :: b).take a.length).isEmpty = false := by
      cases a with
      | nil => exact absurd rfl hp
      | cons _ _ => rfl
    simp only [hemp, Bool.false_eq_true, if_false, and_true]
    unfold keyPath
    simp only [hemp, Bool.false_eq_true, if_false]
    rfl

theorem goodSegB_of_below {A : List Bytes} {y : Bytes} {tl : List Bytes} {f : Path} (hg : ∀ s ∈ f, GoodSeg s)
    (h : f = A ++ y :: tl) : A.all goodSegB = true := by
  rw [List.all_eq_true]
  intro s hs
  obtain ⟨g1, g2, g3, _⟩ := hg s (by rw [h]; exact List.mem_append_left _ hs)
  simp only [goodSegB, Bool.and_eq_true, Bool.not_eq_true', bne_iff_ne, ne_eq]
  exact ⟨⟨List.isEmpty_eq_false_iff.mpr g1, g2⟩, g3⟩

theorem isDir_of_below {t : Tree} (hi : Inv t) {A : List Bytes} {y : Bytes} {tl : List Bytes} {f : Path × Bytes}
    (hf : f ∈ t.files) (hA : A ≠ []) (h : f.1 = A ++ y :: tl) : isDir t A = true :=
  (isDir_iff t A).mpr (hi.anc f hf A ⟨hA, y :: tl, by simp, h⟩)

theorem subdir_iff_below {t : Tree} (hi : Inv t) (A : List Bytes) (part : Bytes) (x : Bytes) :
    (∃ f ∈ t.files, ∃ y tl, f.1 = A ++ y :: tl ∧ Bytes.hasPrefix y part = true ∧ tl ≠ [] ∧ x = keyOf (A ++ [y]) ++ [47]) ↔
    (∃ d ∈ t.dirs, inDirB A part d = true ∧ x = keyOf d ++ [47]) := by
  constructor
  · rintro ⟨f, hf, y, tl, hfe, hy, htl, rfl⟩
    exact ⟨A ++ [y], hi.anc f hf _ ⟨by simp, tl, htl, by rw [hfe]; simp⟩, (inDirB_iff A part _).mpr ⟨y, rfl, hy⟩, rfl⟩
  · rintro ⟨d, hd, hin, rfl⟩
    obtain ⟨y, rfl, hy⟩ := (inDirB_iff A part d).mp hin
    obtain ⟨f, hf, _, tl, htl, hft⟩ := dir_has_file t hi _ hd
    exact ⟨f, hf, y, tl, by rw [hft]; simp, hy, htl, rfl⟩

open GFS.Props.BoltL GFS.Props.C03G

theorem objMap_mem {md5 : Bytes → Bytes} {bk : Bkt} (hk : KeyPaths bk.tree) {q : Bytes × Bolt.BVal} (hq : q ∈ objMap md5 bk) :
    ∃ f ∈ bk.tree.files, q = (keyOf f.1, Bolt.BVal.obj ⟨f.2, md5 f.2, []⟩) ∧ keyPath q.1 = some f.1 := by
  rcases SMap.mem_foldl_insert _ _ _ [] q hq with h | ⟨f, hf, e⟩
  · cases h
  · exact ⟨f, hf, e, by rw [e]; exact file_key hk hf⟩

theorem mem_objMap (md5 : Bytes → Bytes) {bk : Bkt} (hi : Inv bk.tree) (hk : KeyPaths bk.tree) {f : Path × Bytes} (hf : f ∈ bk.tree.files) :
    (keyOf f.1, Bolt.BVal.obj ⟨f.2, md5 f.2, []⟩) ∈ objMap md5 bk := by
  apply GFS.SMap.find_some_mem
  rw [objMap_find md5 bk hi hk, getKey_some (file_key hk hf), content_of_mem hi hf]
  rfl

theorem liveMatch_file (md5 : Bytes → Bytes) (p : Prefix) (f : Path × Bytes) :
    liveMatch p (keyOf f.1, ⟨some ⟨0, false, f.2, md5 f.2, []⟩, []⟩) =
      (p.match_ (keyOf f.1)).map (fun r => (r.1, r.2, (⟨keyOf f.1, f.2.length, md5 f.2⟩ : Content))) :=
  ListLoop.liveMatch_live p (keyOf f.1) ⟨0, false, f.2, md5 f.2, []⟩ [] rfl

theorem match_file {bk : Bkt} (hk : KeyPaths bk.tree) {pfx : Bytes} (hp : pfx.head? ≠ some 47) {f : Path × Bytes}
    (hf : f ∈ bk.tree.files) (r : Bool × Bytes) :
    (⟨!pfx.isEmpty, pfx, true, 47⟩ : Prefix).match_ (keyOf f.1) = some r ↔
      ∃ y tl, f.1 = preA pfx ++ y :: tl ∧ Bytes.hasPrefix y (prePart pfx) = true ∧
        r = if tl = [] then (false, keyOf f.1) else (true, keyOf (preA pfx ++ [y]) ++ [47]) := by
  rw [classify _ pfx (keyOf f.1) f.1 (file_key hk hf) hp]
  generalize preA pfx = A
  generalize prePart pfx = part
  have shape : ∀ y tl, f.1 = A ++ y :: tl →
      (if f.1.length = A.length + 1 then some (false, keyOf f.1) else some (true, join1 47 (f.1.take (A.length + 1)) ++ [47])) =
        some (if tl = [] then (false, keyOf f.1) else (true, keyOf (A ++ [y]) ++ [47])) := by
    intro y tl hft
    cases tl with
    | nil => simp [hft]
    | cons z zs => simp [hft, keyOf, List.take_length_add_append]
  rw [Option.ite_none_right_eq_some, below_iff A part f.1]
  constructor
  · rintro ⟨⟨y, tl, hft, hy⟩, h⟩
    rw [shape y tl hft] at h
    exact ⟨y, tl, hft, hy, (Option.some.inj h).symm⟩
  · rintro ⟨y, tl, hft, hy, rfl⟩
    exact ⟨⟨y, tl, hft, hy⟩, shape y tl hft⟩

theorem match_file_content {bk : Bkt} (hk : KeyPaths bk.tree) {pfx : Bytes} (hp : pfx.head? ≠ some 47) {f : Path × Bytes}
    (hf : f ∈ bk.tree.files) (mp : Bytes) :
    (⟨!pfx.isEmpty, pfx, true, 47⟩ : Prefix).match_ (keyOf f.1) = some (false, mp) ↔
      inDirB (preA pfx) (prePart pfx) f.1 = true ∧ mp = keyOf f.1 := by
  rw [match_file hk hp hf, inDirB_iff]
  constructor
  · rintro ⟨y, tl, hft, hy, hr⟩
    cases tl with
    | nil => exact ⟨⟨y, hft, hy⟩, by simpa using hr⟩
    | cons z zs => simp at hr
  · rintro ⟨⟨y, hft, hy⟩, rfl⟩
    exact ⟨y, [], hft, hy, rfl⟩

theorem match_file_cp {bk : Bkt} (hk : KeyPaths bk.tree) {pfx : Bytes} (hp : pfx.head? ≠ some 47) {f : Path × Bytes}
    (hf : f ∈ bk.tree.files) (x : Bytes) :
    (⟨!pfx.isEmpty, pfx, true, 47⟩ : Prefix).match_ (keyOf f.1) = some (true, x) ↔
      ∃ y tl, f.1 = preA pfx ++ y :: tl ∧ Bytes.hasPrefix y (prePart pfx) = true ∧ tl ≠ [] ∧
        x = keyOf (preA pfx ++ [y]) ++ [47] := by
  rw [match_file hk hp hf]
  refine exists_congr fun y => exists_congr fun tl => and_congr_right fun _ => and_congr_right fun _ => ?_
  cases tl <;> simp

theorem loop_empty_of_none_below (md5 : Bytes → Bytes) {bk : Bkt} (hk : KeyPaths bk.tree) {pfx : Bytes} (hp : pfx.head? ≠ some 47)
    (hno : ∀ f ∈ bk.tree.files, ∀ y tl, f.1 ≠ preA pfx ++ y :: tl) :
    Bolt.listLoop ⟨!pfx.isEmpty, pfx, true, 47⟩ (objMap md5 bk) ⟨[], [], false, []⟩ = ⟨[], [], false, []⟩ := by
  refine loop_of_no_match (fun q hq => ?_) _
  obtain ⟨f, hf, rfl, _⟩ := objMap_mem hk hq
  cases hm : (⟨!pfx.isEmpty, pfx, true, 47⟩ : Prefix).match_ (keyOf f.1) with
  | none => rfl
  | some r =>
    obtain ⟨y, tl, hft, _⟩ := (match_file hk hp hf r).mp hm
    exact absurd hft (hno f hf y tl)

/-- **fs_dir_eq_loop**: reading ONE directory and filtering its entries by the name part (`listDir`)
    gives exactly the Contents, and the same set of CommonPrefixes, as matching EVERY object file of
    the bucket with `Prefix.Match`. -/
theorem fs_dir_eq_loop (md5 : Bytes → Bytes) (bk : Bkt) (hi : Inv bk.tree) (hk : KeyPaths bk.tree)
    (pfx : Bytes) (hp : pfx.head? ≠ some 47) :
    (listDir md5 bk ⟨!pfx.isEmpty, pfx, true, 47⟩).contents =
      (Bolt.listLoop ⟨!pfx.isEmpty, pfx, true, 47⟩ (objMap md5 bk) ⟨[], [], false, []⟩).contents ∧
    ∀ x, x ∈ (listDir md5 bk ⟨!pfx.isEmpty, pfx, true, 47⟩).prefixes ↔
         x ∈ (Bolt.listLoop ⟨!pfx.isEmpty, pfx, true, 47⟩ (objMap md5 bk) ⟨[], [], false, []⟩).prefixes := by
  obtain ⟨hdir, hpart⟩ := filePrefix_keyPath pfx hp
  have empty := loop_empty_of_none_below md5 hk hp
  unfold listDir
  simp only [hdir, hpart]
  by_cases hA : (preA pfx).all goodSegB = true
  · simp only [hA, if_true]
    by_cases hD : ((preA pfx).isEmpty || isDir bk.tree (preA pfx)) = true
    · simp only [hD, Bool.not_true, Bool.false_eq_true, if_false]
      constructor
      · rw [loop_contents]
        apply List.filterMap_congr'
        intro q hq
        obtain ⟨f, hf, rfl, _⟩ := objMap_mem hk hq
        rw [← keyPath_eq (file_key hk hf)]
        by_cases hin : inDirB (preA pfx) (prePart pfx) f.1 = true
        · rw [(match_file_content hk hp hf _).mpr ⟨hin, rfl⟩]
          simp only [inDirB] at hin
          simp [hin, objOf]
        · have hin' := hin
          simp only [inDirB] at hin
          simp only [hin, Bool.false_eq_true, if_false]
          split
          · next mp heq => exact absurd ((match_file_content hk hp hf mp).mp heq).1 hin'
          · rfl
      · intro x
        rw [mem_sortBytes, loop_prefixes_mem]
        simp only [List.mem_map, List.mem_filter]
        have hcd := subdir_iff_below hi (preA pfx) (prePart pfx) x
        constructor
        · rintro ⟨d, ⟨hd, hin⟩, rfl⟩
          obtain ⟨f, hf, h⟩ := hcd.mpr ⟨d, hd, hin, rfl⟩
          exact ⟨_, mem_objMap md5 hi hk hf, (match_file_cp hk hp hf _).mpr h⟩
        · rintro ⟨q, hq, hm⟩
          obtain ⟨f, hf, rfl, _⟩ := objMap_mem hk hq
          obtain ⟨d, hd, hin, hx⟩ := hcd.mp ⟨f, hf, (match_file_cp hk hp hf x).mp hm⟩
          exact ⟨d, ⟨hd, hin⟩, hx.symm⟩
    · -- the directory part is no directory: nothing matches
      simp only [hD, Bool.not_false, if_true]
      simp only [Bool.or_eq_true, not_or, List.isEmpty_iff] at hD
      rw [empty fun f hf y tl h => hD.2 (isDir_of_below hi hf hD.1 h)]
      exact ⟨rfl, fun _ => Iff.rfl⟩
  · -- a segment of the directory part is empty, "." or "..": nothing matches
    simp only [hA, Bool.false_eq_true, if_false]
    rw [empty fun f hf y tl h => hA (goodSegB_of_below (keyPath_segs (file_key hk hf)).2 h)]
    exact ⟨rfl, fun _ => Iff.rfl⟩

theorem listDir_shape (md5 : Bytes → Bytes) (bk : Bkt) (p : Prefix) :
    (listDir md5 bk p).truncated = false ∧ (listDir md5 bk p).prefixes.Nodup ∧
    (listDir md5 bk p).prefixes.Pairwise (fun a b => Bytes.lt a b = true) := by
  dsimp only [listDir]
  split
  · exact ⟨rfl, List.nodup_nil, List.Pairwise.nil⟩
  · next P _ =>
    -- by cases on the condition: `split` would try every `if` inside the listing
    cases (P.isEmpty || isDir bk.tree P) with
    | false => exact ⟨rfl, List.nodup_nil, List.Pairwise.nil⟩
    | true => exact ⟨rfl, sortBytes_nodup _, sortBytes_sorted _⟩

open GFS.Spec.Listing in
/-- **fs_dir_exact** (C03, '/'-delimited listing of the fs backends): Contents and CommonPrefixes are
    exactly the specification's, ascending, each once, with size and MD5 of the stored bytes; never
    truncated; directories without objects, and prefixes that run through an object or an unclean
    path, contribute nothing. -/
theorem fs_dir_exact (md5 : Bytes → Bytes) (bk : Bkt) (objs : SMap Bytes) (pfx : Bytes)
    (hi : Inv bk.tree) (hk : KeyPaths bk.tree) (hR : Rb bk.tree objs) (hs : GFS.SMap.Sorted objs)
    (hp : pfx.head? ≠ some 47) :
    let r := listDir md5 bk ⟨!pfx.isEmpty, pfx, true, 47⟩
    r.truncated = false ∧
    r.contents = objs.filterMap (fun q =>
        match entryOf pfx (some 47) q.1 with
        | some (.content _) => some (contentOf md5 q)
        | _ => none) ∧
    r.prefixes.Nodup ∧ r.prefixes.Pairwise (fun a b => Bytes.lt a b = true) ∧
    ∀ x, x ∈ r.prefixes ↔ ∃ q ∈ objs, entryOf pfx (some 47) q.1 = some (.cprefix x) := by
  have habs := objMap_abs md5 bk objs hi hk hR hs
  have hdom : ∀ q ∈ objs, q.1.head? ≠ some 47 ∧ q.1.getLast? ≠ some 47 := by
    intro q hq
    rw [← habs] at hq
    obtain ⟨a, ha, rfl⟩ := List.mem_map.mp hq
    obtain ⟨f, hf, _, hkp⟩ := objMap_mem hk ha
    exact ⟨keyPath_head hkp, keyPath_last hkp⟩
  obtain ⟨w1, w2, w3, w4, w5⟩ := fs_walk_delim_exact md5 bk objs (!pfx.isEmpty) 47 pfx hi hk hR hs hdom hp
  obtain ⟨e1, e2⟩ := fs_dir_eq_loop md5 bk hi hk pfx hp
  obtain ⟨s1, s2, s3⟩ := listDir_shape md5 bk ⟨!pfx.isEmpty, pfx, true, 47⟩
  refine ⟨s1, ?_, s2, s3, ?_⟩
  · rw [e1]; exact w2
  · intro x
    rw [e2 x, ← w5 x]
    show _ ↔ x ∈ sortBytes _
    rw [mem_sortBytes]

/-! Non-vacuity: a tree with nested objects, listed under a prefix that splits a name. -/
example :
    let t : Tree := ⟨[([[97], [98]], [1]), ([[97], [99], [100]], [2, 3]), ([[120]], [4])], [[[97]], [[97], [99]]]⟩
    (listDir id ⟨t, []⟩ ⟨true, [97, 47], true, 47⟩).contents.map (·.key) = [[97, 47, 98]] ∧
    (listDir id ⟨t, []⟩ ⟨true, [97, 47], true, 47⟩).prefixes = [[97, 47, 99, 47]] ∧
    (listDir id ⟨t, []⟩ ⟨true, [120, 47, 121, 47], true, 47⟩).contents = [] := by decide +kernel

end GFS.Props.FsD
