import GFS.Props.C14
import GFS.Lemmas.Walk
/-
  C14, ListParts paging as a walk: following NextPartNumberMarker from the start visits every
  held part exactly once, in ascending part-number order, for every page size.
-/
namespace GFS.Props.C14W
open GFS.Model GFS.Model.Upl GFS.Props.C14

/-- the client's walk over the parts of one upload: `pos` = the part-number marker -/
def walkParts (limit : Int) (parts : List (Option Part)) : Nat → Nat → List PartList
  | 0, _ => []
  | fuel + 1, pos =>
    let r := listPartsLoop limit (parts.drop pos) pos 0 []
    if r.truncated then r :: walkParts limit parts fuel r.next else [r]

theorem walkParts_exact (limit : Int) (hl : 1 ≤ limit) (parts : List (Option Part)) :
    ∀ (fuel pos : Nat), parts.length - pos < fuel →
      ((walkParts limit parts fuel pos).flatMap (·.parts)) = held (parts.drop pos) pos ∧
      (walkParts limit parts fuel pos).getLast?.map (·.truncated) = some false := by
  intro fuel pos hlen
  have := Walk.exact (walkParts limit parts) (·.truncated) (·.next) (·.parts) (fun (g s : Nat) => g = s)
    (fun pos => held (parts.drop pos) pos) (fun pos => parts.length - pos) (fun _ => True) ?_ fuel pos pos rfl hlen
  · exact ⟨this.1, this.2.1⟩
  · rintro pos _ rfl
    obtain ⟨h1, h2⟩ := listPartsLoop_split limit (parts.drop pos) pos 0 (by omega) []
    refine ⟨listPartsLoop limit (parts.drop pos) pos 0 [], fun n => rfl, trivial, ?_⟩
    cases ht : (listPartsLoop limit (parts.drop pos) pos 0 []).truncated with
    | false => exact Or.inl ⟨rfl, by simpa using (h1 ht).symm⟩
    | true =>
      obtain ⟨j, a1, a2, a3, _, a5⟩ := h2 ht
      have := a5 (by omega)
      rw [List.length_drop] at a2
      exact Or.inr ⟨rfl, pos + j, a1.symm, by rw [Nat.sub_add_eq]; exact Nat.sub_lt (Nat.zero_lt_of_lt a2) this,
        by rw [List.drop_drop] at a3; simpa using a3.symm⟩

/-- **listParts_walk_exact**: for every slot list (`mpu.parts`) and every page size ≥ 1: the walk of
    the listing loop from marker 0 ends on an untruncated page and its pages concatenate to exactly the
    held parts with their true part numbers, sizes and digests, ascending, each once.  (`walkParts` runs
    `listPartsLoop` on the slots from the marker on, which is what `Upl.listParts` answers at every marker
    once `get` has found the upload: `Upl.listParts_of_get`.) -/
theorem listParts_walk_exact (limit : Int) (hl : 1 ≤ limit) (parts : List (Option Part)) :
    ((walkParts limit parts (parts.length + 1) 0).flatMap (·.parts)) = held parts 0 ∧
    (walkParts limit parts (parts.length + 1) 0).getLast?.map (·.truncated) = some false :=
  walkParts_exact limit hl parts (parts.length + 1) 0 (Nat.lt_succ_self _)

/-! Non-vacuity: parts 1, 3, 4 held (slot 0 and 2 empty), page size 1 and 2. -/
example : ((walkParts 1 [none, some ⟨[1], [9]⟩, none, some ⟨[2, 2], [8]⟩, some ⟨[3], [7]⟩] 6 0).map (fun r => r.parts.map (·.number))) =
    [[1], [3], [4]] := by decide +kernel
example : ((walkParts 2 [none, some ⟨[1], [9]⟩, none, some ⟨[2, 2], [8]⟩, some ⟨[3], [7]⟩] 6 0).map (fun r => r.parts.map (·.number))) =
    [[1, 3], [4]] := by decide +kernel

end GFS.Props.C14W
