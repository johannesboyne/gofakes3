import GFS.Props.C06
import GFS.Props.C01
/-
  C06 end to end: `Upl.complete_cases` (what an acknowledged complete hands to the backend) composed
  with `C01.get_put` (an acknowledged upload is what the next read returns).
-/
namespace GFS.Props.C06G
open GFS.Model GFS.Model.Upl GFS.Props.C06 GFS.Props.C01

/-- **complete_then_get**: an acknowledged complete is followed by a read of the key that returns
    exactly the concatenation, in listed order, of the bodies in the slots of the listed parts (the
    list `checkParts` accepted: `C06.checkParts_spec`), the MD5 of those bytes as the object's digest,
    and every header given at initiation unchanged.  (That a slot holds the most recent upload of its
    part number: `C06R.tracked_parts_exact`.) -/
theorem complete_then_get (md5 : Bytes → Bytes) (u : Upl) (mem : Mem) (b : Bytes) (k : Key) (id : Nat)
    (listed : List (Int × Bytes)) (vid : Option Nat) (etag : Bytes)
    (h : (complete md5 u mem b k id listed).2.2 = .ok (vid, etag)) :
    ∃ bu m ps v, u.get b k id = .ok (bu, m) ∧ checkParts m.parts listed = .ok ps ∧
      (complete md5 u mem b k id listed).2.1.get b k = .ok v ∧
      v.body = (ps.map (·.body)).flatten ∧ v.hash = md5 v.body ∧
      (∀ hk hv, SMap.find m.md hk = some hv → SMap.find v.md hk = some hv) ∧
      etag = mpEtag md5 ps := by
  rcases complete_cases md5 u mem b k id listed with ⟨bu, m, ps, mem', vid', hg, hv, hput, e⟩ | ⟨_, e⟩
  · rw [e] at h ⊢
    cases h
    exact ⟨bu, m, ps, _, hg, (validate_ok_checkParts m listed ps hv).1, get_put hput, rfl, rfl,
      mergedMeta_keeps_new mem b k m.md, rfl⟩
  · rw [e] at h; cases h

end GFS.Props.C06G
