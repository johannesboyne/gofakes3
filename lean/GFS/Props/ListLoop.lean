import GFS.Model.MemList
import GFS.Lemmas.SMapLemmas
/-
  The s3mem listing loop against its normal form.  `liveMatch` is how the loop classifies an
  object, `canon` what listing objects without a limit adds to an accumulator, `listLoop_cons` one
  round of the loop in these terms, and `page` the theorem about one page from which the exactness
  statements of C03 and C04 for s3mem (with or without delimiter, paginated or not) follow.  Beside
  it: `listLoop_ok` (no panic) and `C04.page_le_max` (the size bound) have inductions of their own,
  since they hold under fewer hypotheses (no `hlast`; `page_le_max` none on the objects); the bolt
  and fs listings rest on `canon` (`BoltL.bolt_loop_canonical`), not on `page`.
  The file holds three namespaces.  The statements of C03G and C04D are phrased with `liveMatch`,
  `contentsOf`, `cpsOf`, `addAll` and `PageEnd`, so these definitions stand in `C03G` and `C04D`,
  with their lemmas and with `skipCovered_spec`, the walk-ahead `PageEnd` speaks of; what only
  proofs use (`canon`, `page`, …) is in `ListLoop`.
-/
namespace GFS.Props.C03G
open GFS.Model

/-- the live objects as the loop classifies them with `Match` -/
def liveMatch (p : Prefix) (q : Key × Obj) : Option (Bool × Bytes × Content) :=
  match q.2.data with
  | none => none
  | some d =>
    if d.marker then none
    else match p.match_ q.1 with
      | none => none
      | some (cp, mp) => some (cp, mp, ⟨q.1, d.body.length, d.hash⟩)

def contentsOf (p : Prefix) (objs : List (Key × Obj)) : List Content :=
  objs.filterMap fun q => match liveMatch p q with
    | some (false, _, c) => some c
    | _ => none

def cpsOf (p : Prefix) (objs : List (Key × Obj)) : List Bytes :=
  objs.filterMap fun q => match liveMatch p q with
    | some (true, mp, _) => some mp
    | _ => none

/-- `AddPrefix` repeated: append unless already there -/
def addAll (ps : List Bytes) (xs : List Bytes) : List Bytes :=
  xs.foldl (fun acc mp => if acc.contains mp then acc else acc ++ [mp]) ps

theorem addAll_cons (ps : List Bytes) (x : Bytes) (xs : List Bytes) :
    addAll ps (x :: xs) = addAll (if ps.contains x then ps else ps ++ [x]) xs := rfl

theorem addAll_append (ps xs ys : List Bytes) : addAll ps (xs ++ ys) = addAll (addAll ps xs) ys :=
  List.foldl_append

theorem addAll_spec (xs : List Bytes) : ∀ ps : List Bytes, ps.Nodup →
    (addAll ps xs).Nodup ∧ ∀ x, x ∈ addAll ps xs ↔ x ∈ ps ∨ x ∈ xs := by
  induction xs with
  | nil => exact fun ps h => ⟨h, fun x => ⟨Or.inl, fun h => h.resolve_right List.not_mem_nil⟩⟩
  | cons y ys ih =>
    intro ps h
    rw [addAll_cons]
    by_cases hy : y ∈ ps
    · obtain ⟨a, b⟩ := ih ps h
      rw [if_pos (List.contains_iff_mem.mpr hy)]
      refine ⟨a, fun x => ?_⟩
      rw [b x, List.mem_cons]
      exact ⟨fun h => h.elim Or.inl (Or.inr ∘ Or.inr), fun h => h.elim Or.inl (fun h => h.elim (· ▸ Or.inl hy) Or.inr)⟩
    · obtain ⟨a, b⟩ := ih (ps ++ [y]) (List.nodup_append.mpr ⟨h, by simp, fun x hx z hz e => hy (List.mem_singleton.mp hz ▸ e ▸ hx)⟩)
      rw [if_neg (fun hc => hy (List.contains_iff_mem.mp hc))]
      refine ⟨a, fun x => ?_⟩
      rw [b x, List.mem_append, List.mem_singleton, List.mem_cons, or_assoc]

theorem addAll_nil_nodup (xs : List Bytes) : (addAll [] xs).Nodup := (addAll_spec xs [] List.nodup_nil).1

theorem mem_addAll_nil (xs : List Bytes) (x : Bytes) : x ∈ addAll [] xs ↔ x ∈ xs := by
  simpa using (addAll_spec xs [] List.nodup_nil).2 x

theorem addAll_noop {ps xs : List Bytes} (h : ∀ x ∈ xs, x ∈ ps) : addAll ps xs = ps := by
  induction xs with
  | nil => rfl
  | cons y ys ih =>
    rw [addAll_cons, if_pos (List.contains_iff_mem.mpr (h y List.mem_cons_self))]
    exact ih fun x hx => h x (List.mem_cons_of_mem _ hx)

theorem addAll_disjoint (ys : List Bytes) : ∀ (ps qs : List Bytes), (∀ x ∈ ys, x ∉ ps) →
    addAll (ps ++ qs) ys = ps ++ addAll qs ys := by
  induction ys with
  | nil => exact fun ps qs _ => rfl
  | cons y ys ih =>
    intro ps qs h
    have hy : y ∉ ps := h y List.mem_cons_self
    have hys : ∀ x ∈ ys, x ∉ ps := fun x hx => h x (List.mem_cons_of_mem _ hx)
    rw [addAll_cons, addAll_cons]
    by_cases hq : y ∈ qs
    · rw [if_pos (by simp [hq]), if_pos (by simp [hq])]
      exact ih ps qs hys
    · rw [if_neg (by simp [hq, hy]), if_neg (by simp [hq]), List.append_assoc]
      exact ih ps (qs ++ [y]) hys

theorem contentsOf_append (p : Prefix) (a b : List (Key × Obj)) :
    contentsOf p (a ++ b) = contentsOf p a ++ contentsOf p b := List.filterMap_append

theorem cpsOf_append (p : Prefix) (a b : List (Key × Obj)) : cpsOf p (a ++ b) = cpsOf p a ++ cpsOf p b :=
  List.filterMap_append

theorem contentsOf_cons (p : Prefix) (q : Key × Obj) (l : List (Key × Obj)) :
    contentsOf p (q :: l) = (match liveMatch p q with | some (false, _, c) => [c] | _ => []) ++ contentsOf p l := by
  rw [contentsOf, List.filterMap_cons]
  rcases liveMatch p q with _ | ⟨_ | _, _, _⟩ <;> rfl

theorem cpsOf_cons (p : Prefix) (q : Key × Obj) (l : List (Key × Obj)) :
    cpsOf p (q :: l) = (match liveMatch p q with | some (true, mp, _) => [mp] | _ => []) ++ cpsOf p l := by
  rw [cpsOf, List.filterMap_cons]
  rcases liveMatch p q with _ | ⟨_ | _, _, _⟩ <;> rfl

theorem liveMatch_match {p : Prefix} {q : Key × Obj} {cp : Bool} {mp : Bytes} {c : Content}
    (h : liveMatch p q = some (cp, mp, c)) : p.match_ q.1 = some (cp, mp) := by
  unfold liveMatch at h
  split at h
  · cases h
  · split at h
    · cases h
    · split at h
      · cases h
      · next heq => cases h; exact heq

theorem mem_cpsOf {p : Prefix} {L : List (Key × Obj)} {x : Bytes} (h : x ∈ cpsOf p L) :
    ∃ q ∈ L, p.match_ q.1 = some (true, x) := by
  obtain ⟨q, hq, hm⟩ := List.mem_filterMap.mp h
  refine ⟨q, hq, ?_⟩
  split at hm
  · next _ _ hl => cases hm; exact liveMatch_match hl
  · cases hm

end GFS.Props.C03G

namespace GFS.Props.C04D
open GFS.Model

/-- the walk-ahead after a page that ended on a common prefix: it passes exactly the following
    objects grouped under the same prefix and names the last of them -/
theorem skipCovered_spec (p : Prefix) (mp : Bytes) (objs : List (Key × Obj)) (hinv : ∀ q ∈ objs, q.2.data ≠ none) :
    ∀ nm, ∃ cov l3, objs = cov ++ l3 ∧ (∀ q ∈ cov, p.match_ q.1 = some (true, mp)) ∧
      (∀ q, l3.head? = some q → p.match_ q.1 ≠ some (true, mp)) ∧
      skipCovered p mp objs nm = .ok (((cov.map (·.1)).getLast?).getD nm, !l3.isEmpty) := by
  induction objs with
  | nil => exact fun nm => ⟨[], [], rfl, List.forall_mem_nil _, by simp, rfl⟩
  | cons q rest ih =>
    intro nm
    obtain ⟨k, o⟩ := q
    obtain ⟨dv, (hdata : o.data = some dv)⟩ := Option.ne_none_iff_exists'.mp (hinv (k, o) List.mem_cons_self)
    by_cases hm : p.match_ k = some (true, mp)
    · obtain ⟨cov, l3, h1, h2, h3, h4⟩ := ih (fun q hq => hinv q (List.mem_cons_of_mem _ hq)) k
      refine ⟨(k, o) :: cov, l3, by rw [h1]; rfl, List.forall_mem_cons.mpr ⟨hm, h2⟩, h3, ?_⟩
      rw [skipCovered]
      simp only [hdata, hm, h4]
      simp [List.getLast?_cons]
    · refine ⟨[], (k, o) :: rest, rfl, List.forall_mem_nil _, fun _ hq => Option.some.inj hq ▸ hm, ?_⟩
      rw [skipCovered]
      simp only [hdata]
      split
      · next mp' heq =>
        have : (mp' == mp) = false := by simpa using fun (e : mp' = mp) => hm (e ▸ heq)
        rw [this]; rfl
      · rfl

/-- how a page ends at the object with key `k`: on Contents (the marker is `k`) or on a common
    prefix (marker and flag are those of the walk-ahead `skipCovered`) -/
inductive PageEnd (p : Prefix) (k : Key) (l2 : List (Key × Obj)) : Bool → Bytes → Bool → Bytes → Prop where
  | content (mp : Bytes) : PageEnd p k l2 false mp (!l2.isEmpty) k
  | cprefix (mp : Bytes) (nm : Bytes) (more : Bool) (h : skipCovered p mp l2 k = .ok (nm, more)) : PageEnd p k l2 true mp more nm

end GFS.Props.C04D

namespace GFS.Props.ListLoop
open GFS.Model GFS.SMapL GFS.Props.C03G GFS.Props.C04D

/-- what listing `objs` without a limit adds to `acc` -/
def canon (p : Prefix) (acc : ObjectList) (objs : List (Key × Obj)) : ObjectList :=
  { acc with contents := acc.contents ++ contentsOf p objs, prefixes := addAll acc.prefixes (cpsOf p objs) }

theorem canon_nil (p : Prefix) (acc : ObjectList) : canon p acc [] = acc := by
  simp only [canon, contentsOf, cpsOf, addAll, List.filterMap_nil, List.append_nil, List.foldl_nil]

theorem canon_append (p : Prefix) (acc : ObjectList) (a b : List (Key × Obj)) :
    canon p acc (a ++ b) = canon p (canon p acc a) b := by
  simp [canon, contentsOf_append, cpsOf_append, addAll_append]

theorem canon_cons_none {p : Prefix} {acc : ObjectList} {q : Key × Obj} {l : List (Key × Obj)}
    (h : liveMatch p q = none) : canon p acc (q :: l) = canon p acc l := by
  simp [canon, contentsOf_cons, cpsOf_cons, h]

theorem canon_cons_some {p : Prefix} {acc : ObjectList} {q : Key × Obj} {l : List (Key × Obj)}
    {cp : Bool} {mp : Bytes} {c : Content} (h : liveMatch p q = some (cp, mp, c)) :
    canon p acc (q :: l) = canon p (addEntry acc cp mp c) l := by
  cases cp
  · simp [canon, contentsOf_cons, cpsOf_cons, h, addEntry]
  · simp only [canon, contentsOf_cons, cpsOf_cons, h, addEntry, List.singleton_append, addAll_cons]
    cases acc.prefixes.contains mp <;> rfl

theorem liveMatch_live (p : Prefix) (k : Key) (v : Ver) (vs : List Ver) (hv : v.marker = false) :
    liveMatch p (k, ⟨some v, vs⟩) = (p.match_ k).map (fun r => (r.1, r.2, (⟨k, v.body.length, v.hash⟩ : Content))) := by
  simp only [liveMatch, hv]
  cases p.match_ k <;> rfl

theorem listLoop_cons (p : Prefix) (mk : Int) (k : Key) (o : Obj) (rest : List (Key × Obj)) (cnt : Int)
    (last : Bytes) (acc : ObjectList) (hd : o.data ≠ none) :
    listLoop p mk ((k, o) :: rest) cnt last acc =
      match liveMatch p (k, o) with
      | none => listLoop p mk rest cnt last acc
      | some (cp, mp, c) =>
        if (cp && mp == last) = true then listLoop p mk rest cnt last acc
        else if mk > 0 ∧ cnt + 1 ≥ mk then
          (if cp = true then
            (match skipCovered p mp rest k with
             | .ok (nm, more) => .ok { addEntry acc cp mp c with next := nm, truncated := more }
             | .err e => .err e
             | .panic s => .panic s)
           else .ok { addEntry acc cp mp c with next := k, truncated := !rest.isEmpty })
        else listLoop p mk rest (cnt + 1) (if cp = true then mp else last) (addEntry acc cp mp c) := by
  obtain ⟨_ | d, vs⟩ := o
  · exact absurd rfl hd
  rw [listLoop]
  dsimp only [liveMatch]
  cases p.match_ k with
  | none => cases d.marker <;> rfl
  | some r =>
    obtain ⟨cp, mp⟩ := r
    cases d.marker <;> cases cp <;> rfl

theorem listLoop_ok (p : Prefix) (mk : Int) (objs : List (Key × Obj)) (cnt : Int) (last : Bytes) (acc : ObjectList)
    (hinv : ∀ q ∈ objs, q.2.data ≠ none) : ∃ r, listLoop p mk objs cnt last acc = .ok r := by
  induction objs generalizing cnt last acc with
  | nil => exact ⟨acc, rfl⟩
  | cons q rest ih =>
    obtain ⟨k, o⟩ := q
    have hrest : ∀ q ∈ rest, q.2.data ≠ none := fun q hq => hinv q (List.mem_cons_of_mem _ hq)
    rw [listLoop_cons p mk k o rest cnt last acc (hinv _ List.mem_cons_self)]
    rcases liveMatch p (k, o) with _ | ⟨cp, mp, c⟩
    · exact ih cnt last acc hrest
    · simp only
      by_cases hsame : (cp && mp == last) = true
      · rw [if_pos hsame]; exact ih cnt last acc hrest
      rw [if_neg hsame]
      by_cases hfull : mk > 0 ∧ cnt + 1 ≥ mk
      · rw [if_pos hfull]
        cases cp
        · exact ⟨_, rfl⟩
        · obtain ⟨_, _, _, _, _, hsk⟩ := skipCovered_spec p mp rest hrest k
          rw [if_pos rfl, hsk]; exact ⟨_, rfl⟩
      · rw [if_neg hfull]; exact ih _ _ _ hrest

theorem page_round (p : Prefix) (mk : Int) (k : Key) (o : Obj) (rest : List (Key × Obj)) (cnt : Int) (last : Bytes)
    (acc : ObjectList) (hc : mk ≤ 0 ∨ cnt < mk) (hd : o.data ≠ none) (hrest : ∀ q ∈ rest, q.2.data ≠ none)
    (hlast : last ∈ cpsOf p ((k, o) :: rest) → last ∈ acc.prefixes) :
    (∃ cnt' last', listLoop p mk ((k, o) :: rest) cnt last acc = listLoop p mk rest cnt' last' (canon p acc [(k, o)]) ∧
      cnt + (contentsOf p [(k, o)]).length ≤ cnt' ∧
      cnt' ≤ cnt + (contentsOf p [(k, o)]).length + (cpsOf p [(k, o)]).length ∧
      (mk ≤ 0 ∨ cnt' < mk) ∧ (last' ∈ cpsOf p rest → last' ∈ (canon p acc [(k, o)]).prefixes)) ∨
    ∃ cp mp c t n, liveMatch p (k, o) = some (cp, mp, c) ∧ PageEnd p k rest cp mp t n ∧ 0 < mk ∧ mk ≤ cnt + 1 ∧
      listLoop p mk ((k, o) :: rest) cnt last acc = .ok { canon p acc [(k, o)] with truncated := t, next := n } := by
  -- `step` is kept as a hypothesis and specialised case by case: rewriting the goal with it and
  -- splitting there is several times dearer, since every split re-elaborates the whole disjunction
  have step := listLoop_cons p mk k o rest cnt last acc hd
  have e2 : cpsOf p ((k, o) :: rest) = cpsOf p [(k, o)] ++ cpsOf p rest := cpsOf_append p [(k, o)] rest
  rcases hlm : liveMatch p (k, o) with _ | ⟨cp, mp, c⟩ <;> rw [hlm] at step <;> simp only at step
  · have hC : contentsOf p [(k, o)] = [] := by rw [contentsOf_cons, hlm]; rfl
    have hP : cpsOf p [(k, o)] = [] := by rw [cpsOf_cons, hlm]; rfl
    have hacc : canon p acc [(k, o)] = acc := by rw [canon_cons_none hlm, canon_nil]
    rw [hacc, hC, hP]
    exact Or.inl ⟨cnt, last, step, by simp, by simp, hc, fun h => hlast (by rw [e2]; exact List.mem_append_right _ h)⟩
  · have hacc : canon p acc [(k, o)] = addEntry acc cp mp c := by rw [canon_cons_some hlm, canon_nil]
    have hC : (contentsOf p [(k, o)]).length + (cpsOf p [(k, o)]).length = 1 ∧ (cp = true → (contentsOf p [(k, o)]).length = 0) := by
      rw [contentsOf_cons, cpsOf_cons, hlm]
      cases cp
      · exact ⟨rfl, Bool.noConfusion⟩
      · exact ⟨rfl, fun _ => rfl⟩
    rw [hacc]
    by_cases hsame : (cp && mp == last) = true
    · -- the same common prefix as the previous entry: already reported
      rw [if_pos hsame] at step
      simp only [Bool.and_eq_true, beq_iff_eq] at hsame
      obtain ⟨rfl, rfl⟩ := hsame
      have hin : mp ∈ acc.prefixes := hlast (by rw [cpsOf_cons, hlm]; exact List.mem_cons_self)
      have hnoop : addEntry acc true mp c = acc := by simp [addEntry, hin]
      rw [hnoop]
      exact Or.inl ⟨cnt, mp, step, by have := hC.2 rfl; omega, by omega, hc, fun _ => hin⟩
    · rw [if_neg hsame] at step
      by_cases hfull : mk > 0 ∧ cnt + 1 ≥ mk
      · rw [if_pos hfull] at step
        cases cp with
        | false => exact Or.inr ⟨false, mp, c, _, _, rfl, PageEnd.content mp, hfull.1, hfull.2, step⟩
        | true =>
          obtain ⟨cov, l3, _, _, _, hsk⟩ := skipCovered_spec p mp rest hrest k
          exact Or.inr ⟨true, mp, c, _, _, rfl, PageEnd.cprefix mp _ _ hsk, hfull.1, hfull.2, by rw [step, if_pos rfl, hsk]⟩
      · rw [if_neg hfull] at step
        refine Or.inl ⟨cnt + 1, _, step, by omega, by omega, by omega, ?_⟩
        cases cp with
        | false => exact fun h => hlast (by rw [e2]; exact List.mem_append_right _ h)
        | true =>
          intro _
          simp only [addEntry, if_true]
          split
          · next hcn => simpa using hcn
          · simp

/-- one page, for every prefix/delimiter and every limit (`mk ≤ 0`: none): the loop runs to the end
    and returns the normal form, or the page ends at the object whose entry made the count reach
    `mk`.  The count is bounded by the Contents and the Contents plus common-prefix hits passed,
    which is exact where there are no common prefixes (the two bounds serve `C04W.page_plain`; the
    other callers drop them).  `hlast`: a common prefix the loop would skip as "same as the last one"
    is one it has reported. -/
theorem page (p : Prefix) (mk : Int) (objs : List (Key × Obj)) (cnt : Int) (last : Bytes) (acc : ObjectList)
    (hc : mk ≤ 0 ∨ cnt < mk) (hinv : ∀ q ∈ objs, q.2.data ≠ none)
    (hlast : last ∈ cpsOf p objs → last ∈ acc.prefixes) :
    ((mk ≤ 0 ∨ cnt + (contentsOf p objs).length < mk) ∧ listLoop p mk objs cnt last acc = .ok (canon p acc objs)) ∨
    ∃ l1 k o l2 cp mp c t n, objs = l1 ++ (k, o) :: l2 ∧ liveMatch p (k, o) = some (cp, mp, c) ∧
      PageEnd p k l2 cp mp t n ∧ 0 < mk ∧
      cnt + (contentsOf p l1).length < mk ∧ mk ≤ cnt + (contentsOf p l1).length + (cpsOf p l1).length + 1 ∧
      listLoop p mk objs cnt last acc = .ok { canon p acc (l1 ++ [(k, o)]) with truncated := t, next := n } := by
  induction objs generalizing cnt last acc with
  | nil => exact Or.inl ⟨by simpa [contentsOf] using hc, by rw [listLoop, canon_nil]⟩
  | cons q rest ih =>
    obtain ⟨k, o⟩ := q
    have hrest : ∀ q ∈ rest, q.2.data ≠ none := fun q hq => hinv q (List.mem_cons_of_mem _ hq)
    have e1 : ∀ l, contentsOf p ((k, o) :: l) = contentsOf p [(k, o)] ++ contentsOf p l := contentsOf_append p [(k, o)]
    have e2 : ∀ l, cpsOf p ((k, o) :: l) = cpsOf p [(k, o)] ++ cpsOf p l := cpsOf_append p [(k, o)]
    have e3 : ∀ l, canon p acc ((k, o) :: l) = canon p (canon p acc [(k, o)]) l := canon_append p acc [(k, o)]
    rcases page_round p mk k o rest cnt last acc hc (hinv _ List.mem_cons_self) hrest hlast with
      ⟨cnt', last', hstep, h2, h3, hc', hl'⟩ | ⟨cp, mp, c, t, n, hlm, hpe, h0, hfull, hres⟩
    · -- the page goes on from the normal form after `(k, o)`
      rw [hstep]
      rcases ih cnt' last' _ hc' hrest hl' with ⟨hA, hB⟩ | ⟨l1, k2, o2, l2, cp, mp, c, t, n, g1, g2, g3, g0, g4, g5, g6⟩
      · left; rw [e1, e3 rest, List.length_append]; exact ⟨by omega, hB⟩
      · right
        refine ⟨(k, o) :: l1, k2, o2, l2, cp, mp, c, t, n, by rw [g1]; rfl, g2, g3, g0, ?_, ?_, ?_⟩
        · rw [e1, List.length_append]; omega
        · rw [e1, e2, List.length_append, List.length_append]; omega
        · rw [List.cons_append, e3 (l1 ++ [(k2, o2)])]; exact g6
    · refine Or.inr ⟨[], k, o, rest, cp, mp, c, t, n, rfl, hlm, hpe, h0, ?_, ?_, hres⟩
      · have : (contentsOf p []).length = 0 := rfl
        omega
      · omega

theorem page_unlimited (p : Prefix) (objs : List (Key × Obj)) (cnt : Int) (last : Bytes) (acc : ObjectList)
    (hinv : ∀ q ∈ objs, q.2.data ≠ none) (hlast : last ∈ cpsOf p objs → last ∈ acc.prefixes) :
    listLoop p 0 objs cnt last acc = .ok (canon p acc objs) := by
  rcases page p 0 objs cnt last acc (Or.inl (Int.le_refl 0)) hinv hlast with
    ⟨_, h⟩ | ⟨_, _, _, _, _, _, _, _, _, _, _, _, h, _⟩
  · exact h
  · exact absurd h (by decide)

/-! The listing reads an object only through its key, whether it has a current version, and
    `liveMatch`: changing the objects in any way that keeps these changes no page. -/

theorem afterMarker_nil (objs : List (Key × Obj)) : afterMarker objs [] = objs := rfl

theorem afterMarker_of_ne (objs : List (Key × Obj)) {marker : Bytes} (h : marker ≠ []) :
    afterMarker objs marker = objs.filter (fun q => Bytes.lt marker q.1) :=
  if_neg fun he => h (List.isEmpty_iff.mp he)

theorem afterMarker_mapV (f : Obj → Obj) (objs : List (Key × Obj)) (marker : Bytes) :
    afterMarker (mapV f objs) marker = mapV f (afterMarker objs marker) := by
  unfold afterMarker
  split
  · rfl
  · exact List.filter_map

theorem skipCovered_mapV (p : Prefix) (last : Bytes) (f : Obj → Obj) (hd : ∀ o, (f o).data = none ↔ o.data = none)
    (objs : List (Key × Obj)) (nm : Bytes) : skipCovered p last (mapV f objs) nm = skipCovered p last objs nm := by
  induction objs generalizing nm with
  | nil => rfl
  | cons q rest ih =>
    obtain ⟨k, o⟩ := q
    show skipCovered p last ((k, f o) :: mapV f rest) nm = _
    rw [skipCovered, skipCovered]
    by_cases ho : o.data = none
    · rw [ho, (hd o).mpr ho]
    · obtain ⟨d', ho'⟩ := Option.ne_none_iff_exists'.mp (fun h => ho ((hd o).mp h))
      obtain ⟨d, ho⟩ := Option.ne_none_iff_exists'.mp ho
      simp only [ho, ho', ih]

theorem listLoop_mapV (p : Prefix) (mk : Int) (f : Obj → Obj) (hd : ∀ o, (f o).data = none ↔ o.data = none)
    (hl : ∀ k o, liveMatch p (k, f o) = liveMatch p (k, o))
    (objs : List (Key × Obj)) (cnt : Int) (last : Bytes) (acc : ObjectList) :
    listLoop p mk (mapV f objs) cnt last acc = listLoop p mk objs cnt last acc := by
  induction objs generalizing cnt last acc with
  | nil => rfl
  | cons q rest ih =>
    obtain ⟨k, o⟩ := q
    show listLoop p mk ((k, f o) :: mapV f rest) cnt last acc = _
    by_cases ho : o.data = none
    · rw [listLoop, listLoop, ho, (hd o).mpr ho]
    · have ho' : (f o).data ≠ none := fun h => ho ((hd o).mp h)
      rw [listLoop_cons p mk k (f o) _ cnt last acc ho', listLoop_cons p mk k o rest cnt last acc ho, hl]
      simp only [skipCovered_mapV p _ f hd, isEmpty_mapV, ih]

/-- the hypotheses under which the statements of C03G and C04D are phrased give `hlast` of `page` -/
theorem hlast_of {p : Prefix} {objs : List (Key × Obj)} {last : Bytes} {acc : ObjectList}
    (hlast : last = [] ∨ last ∈ acc.prefixes)
    (hne : ∀ q ∈ objs, ∀ mp, p.match_ q.1 = some (true, mp) → mp ≠ []) :
    last ∈ cpsOf p objs → last ∈ acc.prefixes := by
  intro h
  obtain ⟨q, hq, hm⟩ := mem_cpsOf h
  exact hlast.resolve_left (hne q hq last hm)

theorem listBucket_unpaged {m : Mem} {b : Bytes} {bk : Bucket} (hb : SMap.find m.buckets b = some bk) {p : Prefix}
    (hinv : ∀ q ∈ bk.objects, q.2.data ≠ none)
    (hne : ∀ q ∈ bk.objects, ∀ mp, p.match_ q.1 = some (true, mp) → mp ≠ []) :
    m.listBucket b p [] 0 = .ok ⟨contentsOf p bk.objects, addAll [] (cpsOf p bk.objects), false, []⟩ := by
  simp only [Mem.listBucket, hb, afterMarker_nil]
  rw [page_unlimited p bk.objects 0 [] ⟨[], [], false, []⟩ hinv (hlast_of (.inl rfl) hne)]
  rfl

end GFS.Props.ListLoop
