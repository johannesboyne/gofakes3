import GFS.Props.ListLoop
/-
  C04, the page-size bound: a page never holds more entries than max-keys (`page_le_max`).  Its own
  induction over the loop, since unlike `ListLoop.page` it needs no hypothesis on the objects.  That the
  walk along the returned markers visits every key once and terminates is Props/C04W, C04D, C04M.
-/
namespace GFS.Props.C04
open GFS.Model GFS.Props.C03G GFS.Props.ListLoop

def size (l : ObjectList) : Int := l.contents.length + l.prefixes.length

theorem size_addEntry (acc : ObjectList) (cp : Bool) (mp : Bytes) (c : Content) :
    size (addEntry acc cp mp c) ≤ size acc + 1 := by
  unfold addEntry size
  cases cp
  · simp; omega
  · simp only [if_true]
    split
    · omega
    · simp; omega

/-- no hypothesis on the objects is needed: one without a current version makes the loop panic, so a
    page that ends successfully has met none -/
theorem page_le_max_loop (p : Prefix) (mk : Int) (hmk : 1 ≤ mk) (objs : List (Key × Obj)) (cnt : Int) (last : Bytes)
    (acc r : ObjectList) (hc : cnt < mk) (h : listLoop p mk objs cnt last acc = .ok r) :
    size r ≤ size acc + (mk - cnt) := by
  induction objs generalizing cnt last acc with
  | nil => cases h; omega
  | cons q rest ih =>
    obtain ⟨k, o⟩ := q
    by_cases hd : o.data = none
    · rw [listLoop, hd] at h; cases h
    rw [listLoop_cons p mk k o rest cnt last acc hd] at h
    rcases hlm : liveMatch p (k, o) with _ | ⟨cp, mp, c⟩ <;> rw [hlm] at h <;> simp only at h
    · exact ih cnt last acc hc h
    · have h1 := size_addEntry acc cp mp c
      generalize addEntry acc cp mp c = acc' at h h1
      by_cases hsame : (cp && mp == last) = true
      · rw [if_pos hsame] at h; exact ih cnt last acc hc h
      rw [if_neg hsame] at h
      by_cases hfull : mk > 0 ∧ cnt + 1 ≥ mk
      · -- the page is full: only the marker and the flag are set
        rw [if_pos hfull] at h
        have : size r = size acc' := by
          cases cp with
          | false => cases h; rfl
          | true =>
            rw [if_pos rfl] at h
            split at h <;> cases h
            rfl
        omega
      · rw [if_neg hfull] at h
        have := ih (cnt + 1) _ _ (by omega) h
        omega

/-- **page_le_max**: for every page size of at least one, whatever the prefix, delimiter,
    bucket contents and marker, a page never returns more entries (Contents plus
    CommonPrefixes) than the page size. -/
theorem page_le_max (m : Mem) (b : Bytes) (p : Prefix) (marker : Bytes) (mk : Int) (hmk : 1 ≤ mk) (r : ObjectList)
    (h : m.listBucket b p marker mk = .ok r) : size r ≤ mk := by
  unfold Mem.listBucket at h
  split at h
  · cases h
  · have := page_le_max_loop p mk hmk _ 0 [] ⟨[], [], false, []⟩ r (by omega) h
    simpa [size] using this

/-! Non-vacuity: a two-key bucket listed with max-keys 1. -/
example : (Mem.listBucket ⟨[([98], ⟨.none, [([97], ⟨some ⟨1, false, [1], [9], []⟩, []⟩), ([98], ⟨some ⟨2, false, [2], [8], []⟩, []⟩)]⟩)], 2⟩
    [98] ⟨false, [], false, 0⟩ [] 1) = .ok ⟨[⟨[97], 1, [9]⟩], [], true, [97]⟩ := by decide +kernel

end GFS.Props.C04
