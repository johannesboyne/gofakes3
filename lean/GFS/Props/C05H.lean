import GFS.Props.C05
/-
  C05 over whole histories: while versioning is Enabled, no sequence of uploads and plain deletes
  ever makes a version that was retrievable by its id unretrievable or changes what it returns.
-/
namespace GFS.Props.C05H
open GFS.Model

def IdsLe (n : Nat) (o : Obj) : Prop := (∀ d, o.data = some d → d.id ≤ n) ∧ ∀ w ∈ o.versions, w.id ≤ n

/-- every version id stored anywhere is at most the generator's counter (so the next id is new):
    `IdsLe m.nextVer` of every stored object, written out here and in `bput_objectVersion`, `bput_fresh` -/
def Fresh (m : Mem) : Prop :=
  ∀ b bk k o, SMap.find m.buckets b = some bk → SMap.find bk.objects k = some o →
    (∀ d, o.data = some d → d.id ≤ m.nextVer) ∧ ∀ w ∈ o.versions, w.id ≤ m.nextVer

def EnabledAt (m : Mem) (b : Bytes) : Prop := ∃ bk, SMap.find m.buckets b = some bk ∧ bk.versioning = .enabled

inductive VOp where
  | put (k : Key) (md : Meta) (body : Bytes)
  | del (k : Key)

def vstep (md5 : Bytes → Bytes) (b : Bytes) (m : Mem) : VOp → Mem
  | .put k md body => (m.put md5 b k md body).1
  | .del k => (m.delete b k).1

def vrun (md5 : Bytes → Bytes) (b : Bytes) (m : Mem) (ops : List VOp) : Mem := ops.foldl (vstep md5 b) m

theorem IdsLe.mono {n n' : Nat} {o : Obj} (ho : IdsLe n o) (h : n ≤ n') : IdsLe n' o :=
  ⟨fun d hd => Nat.le_trans (ho.1 d hd) h, fun w hw => Nat.le_trans (ho.2 w hw) h⟩

theorem IdsLe.of_byId {n id : Nat} {o : Obj} {v : Ver} (ho : IdsLe n o) (h : o.byId id = some v) : id ≤ n := by
  obtain ⟨rfl, hd | hw⟩ := Obj.byId_spec h
  · exact ho.1 _ hd
  · exact ho.2 _ hw

theorem IdsLe.old {n : Nat} {bk : Bucket} {k : Key} (h : ∀ o, SMap.find bk.objects k = some o → IdsLe n o) :
    IdsLe n (bk.old k) :=
  Bucket.old_rec ⟨nofun, List.forall_mem_nil _⟩ h

theorem bput_objectVersion (bk : Bucket) (k0 k : Key) (item : Ver) (id : Nat) (v : Ver) (n : Nat)
    (hv : bk.versioning = .enabled)
    (hfresh : ∀ o, SMap.find bk.objects k0 = some o → (∀ d, o.data = some d → d.id ≤ n) ∧ ∀ w ∈ o.versions, w.id ≤ n)
    (hitem : n < item.id) (h : bk.objectVersion k id = .ok v) :
    (bk.put k0 item).objectVersion k id = .ok v := by
  rw [Bucket.objectVersion_ok] at h ⊢
  rw [Bucket.byId_put hv, if_neg]
  · exact h
  · -- an id read at `k0` is a stored one, so at most `n`
    rintro ⟨rfl, rfl⟩
    exact Nat.not_le_of_lt hitem ((IdsLe.old hfresh).of_byId h)

theorem bput_fresh (bk : Bucket) (k0 : Key) (item : Ver) (n n' : Nat) (hn : n ≤ n') (hi : item.id ≤ n')
    (hfresh : ∀ k o, SMap.find bk.objects k = some o → (∀ d, o.data = some d → d.id ≤ n) ∧ ∀ w ∈ o.versions, w.id ≤ n) :
    ∀ k o, SMap.find (bk.put k0 item).objects k = some o →
      (∀ d, o.data = some d → d.id ≤ n') ∧ ∀ w ∈ o.versions, w.id ≤ n' := by
  intro k o ho
  rw [← Bucket.old_of_find ho, Bucket.put_eq, Bucket.old_storeObj]
  split
  · exact Obj.push_all ((IdsLe.old (hfresh k0)).mono hn) hi
  · exact (IdsLe.old (hfresh k)).mono hn

theorem keeps_history_of_bucket {m : Mem} {b : Bytes} {bk bk' : Bucket} {N : Nat} (hf : Fresh m) (hb : SMap.find m.buckets b = some bk)
    (hN : m.nextVer ≤ N) (hv : bk'.versioning = .enabled) (hfr : ∀ k o, SMap.find bk'.objects k = some o → IdsLe N o)
    (hkeep : ∀ k id v, bk.objectVersion k id = .ok v → bk'.objectVersion k id = .ok v) :
    let m' : Mem := ⟨SMap.insert m.buckets b bk', N⟩
    Fresh m' ∧ EnabledAt m' b ∧ ∀ k id v, m.getVersion b k id = .ok v → m'.getVersion b k id = .ok v := by
  refine ⟨?_, ⟨bk', SMap.find_insert_self .., hv⟩, fun k id v h => ?_⟩
  · intro b' bk'' k o hb'
    exact SMap.forall_find_insert (P := fun _ bk => ∀ k o, SMap.find bk.objects k = some o → IdsLe N o)
      (fun b' bk' hb' k o ho => IdsLe.mono (hf b' bk' k o hb' ho) hN) hfr b' bk'' hb' k o
  · simp only [Mem.getVersion, hb, SMap.find_insert_self] at h ⊢
    exact hkeep k id v h

theorem bput_keeps_history {m : Mem} {b : Bytes} {bk : Bucket} (k0 : Key) {item : Ver}
    (hb : SMap.find m.buckets b = some bk) (hv : bk.versioning = .enabled) (hf : Fresh m) (hi : item.id = m.nextVer + 1) :
    let m' : Mem := ⟨SMap.insert m.buckets b (bk.put k0 item), m.nextVer + 1⟩
    Fresh m' ∧ EnabledAt m' b ∧ ∀ k id v, m.getVersion b k id = .ok v → m'.getVersion b k id = .ok v :=
  keeps_history_of_bucket hf hb (Nat.le_succ _) (by rw [Bucket.put_eq, Bucket.storeObj_versioning]; exact hv)
    (bput_fresh bk k0 item m.nextVer _ (Nat.le_succ _) (Nat.le_of_eq hi) fun k o => hf b bk k o hb)
    (fun k id v => bput_objectVersion bk k0 k item id v m.nextVer hv (fun o => hf b bk k0 o hb) (by omega))

/-- **step_keeps_history**: one upload or plain delete on an Enabled bucket keeps every version
    retrievable by id with the same content (bytes, digest, metadata, marker flag), keeps versioning
    Enabled and the id generator ahead of every stored id. -/
theorem step_keeps_history (md5 : Bytes → Bytes) (m : Mem) (b : Bytes) (op : VOp) (hf : Fresh m) (he : EnabledAt m b) :
    Fresh (vstep md5 b m op) ∧ EnabledAt (vstep md5 b m op) b ∧
    ∀ k id v, m.getVersion b k id = .ok v → (vstep md5 b m op).getVersion b k id = .ok v := by
  obtain ⟨bk, hb, hv⟩ := he
  cases op with
  | put k0 md body =>
    simp only [vstep, Mem.put, Mem.putCommit, hb]
    exact bput_keeps_history k0 hb hv hf rfl
  | del k0 =>
    -- while Enabled a delete of a stored key is an upload of a delete marker; of an absent key, nothing
    simp only [vstep, Mem.delete, hb, Bucket.rm_eq]
    cases SMap.find bk.objects k0 with
    | none => exact keeps_history_of_bucket hf hb (Nat.le_refl _) hv (fun k o => hf b bk k o hb) fun _ _ _ h => h
    | some ob =>
      simp only [hv, beq_self_eq_true, if_true]
      exact bput_keeps_history k0 hb hv hf rfl

/-- **history_never_lost** (C05): on a bucket with versioning Enabled, after any sequence of uploads
    and plain deletes every version that was retrievable by its id still is, with the same content
    (from every store whose id generator is ahead of its stored ids). -/
theorem history_never_lost (md5 : Bytes → Bytes) (b : Bytes) (ops : List VOp) :
    ∀ (m : Mem), Fresh m → EnabledAt m b →
      Fresh (vrun md5 b m ops) ∧ EnabledAt (vrun md5 b m ops) b ∧
      ∀ k id v, m.getVersion b k id = .ok v → (vrun md5 b m ops).getVersion b k id = .ok v := by
  intro m hf he
  refine Fold.foldl_inv (P := fun s => Fresh s ∧ EnabledAt s b ∧ ∀ k id v, m.getVersion b k id = .ok v → s.getVersion b k id = .ok v)
    ops m (fun s op _ ⟨f, e, g⟩ => ?_) ⟨hf, he, fun _ _ _ h => h⟩
  obtain ⟨f1, e1, g1⟩ := step_keeps_history md5 s b op f e
  exact ⟨f1, e1, fun k id v h => g1 k id v (g k id v h)⟩

theorem fresh_empty : Fresh Mem.empty := by intro b bk k o hb; simp [Mem.empty] at hb

/-- versions created during the sequence are kept as well: what an upload stores is retrievable
    under the id it was given, from then on -/
theorem upload_then_history (md5 : Bytes → Bytes) (b : Bytes) (k : Key) (md : Meta) (body : Bytes) (ops : List VOp)
    (m : Mem) (hf : Fresh m) (he : EnabledAt m b) :
    ∃ v, v.id = m.nextVer + 1 ∧ v.body = body ∧ v.hash = md5 body ∧ v.marker = false ∧
      (vrun md5 b m (.put k md body :: ops)).getVersion b k (m.nextVer + 1) = .ok v := by
  obtain ⟨bk, hb, hv⟩ := he
  obtain ⟨f1, e1, _⟩ := step_keeps_history md5 m b (.put k md body) hf ⟨bk, hb, hv⟩
  let v : Ver := ⟨m.nextVer + 1, false, body, md5 body, m.mergedMeta b k md⟩
  have hnow : (vstep md5 b m (.put k md body)).getVersion b k (m.nextVer + 1) = .ok v := by
    simp only [vstep, Mem.put, Mem.putCommit, hb, Mem.getVersion, SMap.find_insert_self, Bucket.objectVersion_ok,
      Bucket.byId_put hv, and_self, if_true, v]
  obtain ⟨_, _, g⟩ := history_never_lost md5 b ops (vstep md5 b m (.put k md body)) f1 e1
  exact ⟨v, rfl, rfl, rfl, rfl, g k _ v hnow⟩

/-! Non-vacuity: put, put, delete, put on one key of an Enabled bucket: all four ids readable. -/
def exM : Mem := ⟨[([98], ⟨.enabled, []⟩)], 0⟩
example : Fresh exM ∧ EnabledAt exM [98] := by
  constructor
  · intro b bk k o hb ho
    rw [exM, SMap.find_cons] at hb
    split at hb <;> cases hb
    cases ho
  · exact ⟨⟨.enabled, []⟩, by decide, rfl⟩
example : let m := vrun id [98] exM [.put [107] [] [1], .put [107] [] [2], .del [107], .put [107] [] [3]]
    m.getVersion [98] [107] 1 = .ok ⟨1, false, [1], [1], []⟩ ∧ m.getVersion [98] [107] 2 = .ok ⟨2, false, [2], [2], []⟩ ∧
    m.getVersion [98] [107] 3 = .ok ⟨3, true, [], [], []⟩ ∧ m.get [98] [107] = .ok ⟨4, false, [3], [3], []⟩ := by decide +kernel

end GFS.Props.C05H
