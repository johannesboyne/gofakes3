import GFS.Props.C06
/-
  C06, several uploads: what is done to one upload never changes another (other id, or other
  bucket) — its parts, metadata, key — whether the operation succeeds or not.  `pending` reads one
  slot (bucket, id) of the bookkeeping (`pending_eq`) and every request rewrites at most one slot
  (`pending_update`; `pending_slot` for the slot of an upload `get` found), so each request is
  characterised by an equation for `pending` afterwards (`pending_create`, `pending_uploadPart`,
  `pending_abort`, `pending_complete`); the frame theorems are read off.
-/
namespace GFS.Props.C06F
open GFS.Model GFS.Model.Upl

/-- the pending upload an (bucket, key, id) names, if any -/
def pending (u : Upl) (b : Bytes) (k : Key) (id : Nat) : Option MPU :=
  match u.get b k id with
  | .ok (_, m) => some m
  | _ => none

theorem pending_eq_some {u : Upl} {b : Bytes} {k : Key} {id : Nat} {m : MPU} :
    pending u b k id = some m ↔ ∃ bu, u.get b k id = .ok (bu, m) := by
  unfold pending
  split
  · rename_i bu m' hg; simp [hg]
  · rename_i hn; simpa using fun bu hg => hn bu m hg

theorem pending_eq (u : Upl) (b : Bytes) (k : Key) (id : Nat) :
    pending u b k id =
      (((SMap.find u.buckets b).getD ⟨[], []⟩).find id).filter (fun m => m.bucket == b && m.key == k) := by
  unfold pending Upl.get
  cases SMap.find u.buckets b with
  | none => rfl
  | some bu =>
    simp only [Option.getD_some]
    cases bu.find id with
    | none => rfl
    | some m => rw [Option.filter_some]; by_cases hc : (m.bucket == b && m.key == k) = true <;> simp [hc]

theorem pending_update {u : Upl} {b : Bytes} {bu' : BUps} {id : Nat} {x : Option MPU}
    (h : ∀ id2, bu'.find id2 = if id2 = id then x else ((SMap.find u.buckets b).getD ⟨[], []⟩).find id2)
    (n : Nat) (b2 : Bytes) (k2 : Key) (id2 : Nat) :
    pending (u.withBucket b bu' n) b2 k2 id2 =
      if b2 = b ∧ id2 = id then x.filter (fun m => m.bucket == b2 && m.key == k2) else pending u b2 k2 id2 := by
  rw [pending_eq, pending_eq, SMap.find_insert]
  by_cases hb : b = b2
  · subst hb
    rw [if_pos rfl, Option.getD_some, h]
    by_cases hi : id2 = id <;> simp [hi]
  · rw [if_neg hb, if_neg fun c => hb c.1.symm]

theorem pending_key_unique {u : Upl} {b : Bytes} {k k2 : Key} {id : Nat} {m : MPU} (hp : pending u b k id = some m)
    (hk : k2 ≠ k) : pending u b k2 id = none := by
  obtain ⟨bu, hg⟩ := pending_eq_some.mp hp
  cases hq : pending u b k2 id with
  | none => rfl
  | some m2 => obtain ⟨_, hg2⟩ := pending_eq_some.mp hq; exact absurd (get_unique hg2 hg).1 hk

/-- every upload is filed under its own id (true of the empty uploader, kept by every operation) -/
def KeyedB (bu : BUps) : Prop := ∀ p ∈ bu.uploads, p.2.id = p.1
def Keyed (u : Upl) : Prop := ∀ b bu, SMap.find u.buckets b = some bu → KeyedB bu

theorem get_id {u : Upl} (hk : Keyed u) {b : Bytes} {k : Key} {id : Nat} {bu : BUps} {m : MPU}
    (hg : u.get b k id = .ok (bu, m)) : m.id = id :=
  have ⟨hb, hf, _⟩ := get_eq_ok.mp hg
  hk b bu hb _ (BUps.find_mem hf)

theorem pending_slot {u : Upl} (hk : Keyed u) {b : Bytes} {k : Key} {id : Nat} {bu bu' : BUps} {m : MPU} {x : Option MPU}
    (hg : u.get b k id = .ok (bu, m)) (hx : ∀ m', x = some m' → m'.bucket = b ∧ m'.key = k)
    (h : ∀ id2, bu'.find id2 = if id2 = m.id then x else bu.find id2) (b2 : Bytes) (k2 : Key) (id2 : Nat) :
    pending (u.withBucket b bu') b2 k2 id2 = if b2 = b ∧ k2 = k ∧ id2 = id then x else pending u b2 k2 id2 := by
  rw [pending_update (x := x) (id := id) fun id2 => by rw [(get_eq_ok.mp hg).1, h, get_id hk hg]; rfl]
  by_cases c : b2 = b ∧ id2 = id
  · obtain ⟨rfl, rfl⟩ := c
    rw [if_pos ⟨rfl, rfl⟩]
    by_cases hk2 : k2 = k
    · rw [if_pos ⟨rfl, hk2, rfl⟩]
      cases x with
      | none => rfl
      | some m' => simp [hx m' rfl, hk2]
    · -- under another key nothing was pending with this id, and `x` is not filed there
      rw [if_neg fun c => hk2 c.2.1, pending_key_unique (pending_eq_some.mpr ⟨bu, hg⟩) hk2]
      cases x with
      | none => rfl
      | some m' => simp [hx m' rfl, Ne.symm hk2]
  · rw [if_neg c, if_neg fun c' => c ⟨c'.1, c'.2.2⟩]

theorem pending_remove {u : Upl} (hk : Keyed u) {b : Bytes} {k : Key} {id : Nat} {bu : BUps} {m : MPU}
    (hg : u.get b k id = .ok (bu, m)) (b2 : Bytes) (k2 : Key) (id2 : Nat) :
    pending (u.withBucket b (bu.remove m)) b2 k2 id2 =
      if b2 = b ∧ k2 = k ∧ id2 = id then none else pending u b2 k2 id2 :=
  pending_slot (x := none) hk hg nofun (BUps.find_remove bu m) ..

theorem pending_set {u : Upl} (hk : Keyed u) {b : Bytes} {k : Key} {id : Nat} {bu : BUps} {m : MPU}
    (hg : u.get b k id = .ok (bu, m)) (parts : List (Option Part)) (b2 : Bytes) (k2 : Key) (id2 : Nat) :
    pending (u.withBucket b (bu.set { m with parts := parts })) b2 k2 id2 =
      if b2 = b ∧ k2 = k ∧ id2 = id then some { m with parts := parts } else pending u b2 k2 id2 := by
  obtain ⟨-, hf, hm⟩ := get_eq_ok.mp hg
  refine pending_slot (x := some { m with parts := parts }) hk hg (by rintro _ ⟨⟩; exact hm) (fun id2 => ?_) ..
  rw [BUps.find_set]
  split
  · subst id2; rw [get_id hk hg, hf]; rfl
  · rfl

theorem pending_create (u : Upl) (b : Bytes) (k : Key) (md : Meta) (b2 : Bytes) (k2 : Key) (id2 : Nat) :
    pending (u.create b k md).1 b2 k2 id2 =
      if b2 = b ∧ id2 = u.nextId + 1 then (if k2 = k then some ⟨u.nextId + 1, b, k, md, []⟩ else none)
      else pending u b2 k2 id2 := by
  rw [create_fst, pending_update (BUps.find_add _ _)]
  split
  · next h =>
    obtain ⟨rfl, -⟩ := h
    by_cases hk : k2 = k
    · simp [hk]
    · simp [hk, Ne.symm hk]
  · rfl

theorem pending_abort {u : Upl} (hk : Keyed u) (b : Bytes) (k : Key) (id : Nat) (b2 : Bytes) (k2 : Key) (id2 : Nat) :
    pending (u.abort b k id).1 b2 k2 id2 = if b2 = b ∧ k2 = k ∧ id2 = id then none else pending u b2 k2 id2 := by
  rcases abort_cases u b k id with ⟨bu, m, hg, e⟩ | ⟨hg, e⟩ <;> rw [e]
  · exact pending_remove hk hg ..
  · split
    · next h => obtain ⟨rfl, rfl, rfl⟩ := h; simp [pending, hg]
    · rfl

theorem pending_uploadPart {u : Upl} (hk : Keyed u) (md5 : Bytes → Bytes) (b : Bytes) (k : Key) (id n : Nat) (d : Int) (body : Bytes)
    (b2 : Bytes) (k2 : Key) (id2 : Nat) :
    pending (u.uploadPart md5 b k id n d body).1 b2 k2 id2 =
      if b2 = b ∧ k2 = k ∧ id2 = id ∧ n ≤ MaxUploadPartNumber ∧ (body.length : Int) = d then
        (pending u b2 k2 id2).map fun m => { m with parts := setPart m.parts n ⟨body, md5 body⟩ }
      else pending u b2 k2 id2 := by
  rcases uploadPart_cases md5 u b k id n d body with ⟨bu, m, hg, hn, hd, e⟩ | ⟨hno, c, e⟩ <;> rw [e]
  · rw [pending_set hk hg]
    by_cases hc : b2 = b ∧ k2 = k ∧ id2 = id
    · obtain ⟨rfl, rfl, rfl⟩ := hc
      rw [if_pos ⟨rfl, rfl, rfl⟩, if_pos ⟨rfl, rfl, rfl, hn, hd⟩, pending_eq_some.mpr ⟨bu, hg⟩]
      rfl
    · rw [if_neg hc, if_neg fun c => hc ⟨c.1, c.2.1, c.2.2.1⟩]
  · refine (ite_eq_right_iff.mpr ?_).symm
    rintro ⟨rfl, rfl, rfl, hn, hd⟩
    rcases hno with h | h | h
    · exact absurd hn (Nat.not_le_of_gt h)
    · exact absurd hd h
    · simp [pending, h]

theorem pending_complete {u : Upl} (hk : Keyed u) (md5 : Bytes → Bytes) (mem : Mem) (b : Bytes) (k : Key) (id : Nat)
    (listed : List (Int × Bytes)) (b2 : Bytes) (k2 : Key) (id2 : Nat) :
    pending (u.complete md5 mem b k id listed).1 b2 k2 id2 =
      if b2 = b ∧ k2 = k ∧ id2 = id ∧ C14L.isOk (u.complete md5 mem b k id listed).2.2 then none
      else pending u b2 k2 id2 := by
  rcases complete_cases md5 u mem b k id listed with ⟨bu, m, ps, mem', vid, hg, _, _, e⟩ | ⟨c, e⟩ <;> rw [e]
  · simp only [pending_remove hk hg, C14L.isOk, and_true]
  · exact (if_neg fun c => Bool.noConfusion c.2.2.2).symm

/-- **uploadPart_frame**: uploading a part to upload `id` of bucket `b` — accepted or refused —
    leaves every other pending upload (another id, or another bucket) exactly as it was -/
theorem uploadPart_frame (md5 : Bytes → Bytes) (u : Upl) (hk : Keyed u) (b : Bytes) (k : Key) (id n : Nat) (declared : Int)
    (body : Bytes) (b2 : Bytes) (k2 : Key) (id2 : Nat) (h : id2 ≠ id ∨ b2 ≠ b) :
    pending (u.uploadPart md5 b k id n declared body).1 b2 k2 id2 = pending u b2 k2 id2 :=
  (pending_uploadPart hk ..).trans (if_neg fun c => h.elim (· c.2.2.1) (· c.1))

/-- **abort_frame**: aborting upload `id` — found or not — leaves every other pending upload exactly as it was -/
theorem abort_frame (u : Upl) (hk : Keyed u) (b : Bytes) (k : Key) (id : Nat) (b2 : Bytes) (k2 : Key) (id2 : Nat)
    (h : id2 ≠ id ∨ b2 ≠ b) :
    pending (u.abort b k id).1 b2 k2 id2 = pending u b2 k2 id2 :=
  (pending_abort hk ..).trans (if_neg fun c => h.elim (· c.2.2) (· c.1))

/-- **complete_frame**: completing upload `id` — accepted or rejected — leaves every other
    pending upload exactly as it was -/
theorem complete_frame (md5 : Bytes → Bytes) (u : Upl) (hk : Keyed u) (mem : Mem) (b : Bytes) (k : Key) (id : Nat)
    (listed : List (Int × Bytes)) (b2 : Bytes) (k2 : Key) (id2 : Nat) (h : id2 ≠ id ∨ b2 ≠ b) :
    pending (u.complete md5 mem b k id listed).1 b2 k2 id2 = pending u b2 k2 id2 :=
  (pending_complete hk ..).trans (if_neg fun c => h.elim (· c.2.2.1) (· c.1))

theorem keyed_empty : Keyed Upl.empty := nofun

theorem keyed_insert (u : Upl) (b : Bytes) (bu' : BUps) (n : Nat) (h : Keyed u) (hb : KeyedB bu') :
    Keyed ⟨SMap.insert u.buckets b bu', n⟩ :=
  SMap.forall_find_insert (P := fun _ => KeyedB) h hb

theorem keyed : UplInv (fun _ _ => KeyedB) (fun _ => True) Keyed where
  find h hb := h _ _ hb
  insert h _ hb := keyed_insert _ _ _ _ h hb
  fresh _ _ := List.forall_mem_nil _
  add _ _ _ h := BUps.forall_add h rfl
  set _ _ _ h := BUps.forall_set h fun _ _ hp => hp.symm
  remove _ _ h := BUps.forall_remove _ h

theorem keyed_create (u : Upl) (b : Bytes) (k : Key) (md : Meta) (h : Keyed u) : Keyed (u.create b k md).1 :=
  keyed.create h b md trivial

theorem keyed_uploadPart (md5 : Bytes → Bytes) (u : Upl) (b : Bytes) (k : Key) (id n : Nat) (declared : Int) (body : Bytes)
    (h : Keyed u) : Keyed (u.uploadPart md5 b k id n declared body).1 :=
  keyed.chg (uploadPart_chg md5 u b k id n declared body) h

theorem keyed_abort (u : Upl) (b : Bytes) (k : Key) (id : Nat) (h : Keyed u) : Keyed (u.abort b k id).1 :=
  keyed.chg (abort_chg u b k id) h

/-! Non-vacuity: two uploads of one key; a part for the second leaves the first untouched. -/
example : let u := (Upl.create (Upl.create Upl.empty [98] [107] []).1 [98] [107] []).1
    pending (u.uploadPart id [98] [107] 2 1 1 [7]).1 [98] [107] 1 = pending u [98] [107] 1 ∧
    (pending u [98] [107] 1).isSome = true := by decide +kernel

end GFS.Props.C06F
