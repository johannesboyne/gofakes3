import GFS.Spec.S3
import GFS.Lemmas.SMapLemmas
import GFS.Lemmas.Fold
import GFS.Lemmas.MemOps
import GFS.Props.SpecS
/-
  C02 — the refinement: on never-versioned stores the backend model, operation by operation and
  hence for every finite operation sequence, answers exactly as the reference model Spec.S3 and
  its state abstracts to the reference model's state.
-/
namespace GFS.Props.C02R
open GFS.Model GFS.SMapL GFS.Spec.S3

/-- what the reference model keeps of an object -/
def objVal (o : Obj) : Bytes := match o.data with | some d => d.body | none => []
def absB (bk : Bucket) : SMap Bytes := mapV objVal bk.objects
def abs (m : Mem) : Store := mapV absB m.buckets

/-- representation invariant of a never-versioned store -/
def PlainO (o : Obj) : Prop := ∃ d, o.data = some d ∧ d.marker = false ∧ o.versions = []
def PlainB (bk : Bucket) : Prop := bk.versioning = .none ∧ ∀ p ∈ bk.objects, PlainO p.2
def Plain (m : Mem) : Prop := ∀ q ∈ m.buckets, PlainB q.2

theorem abs_find (m : Mem) (b : Bytes) : SMap.find (abs m) b = (SMap.find m.buckets b).map absB := find_mapV _ _ _

theorem bput_abs (bk : Bucket) (k : Key) (item : Ver) :
    absB (bk.put k item) = SMap.insert (absB bk) k item.body := by
  rw [Bucket.put_eq, Bucket.storeObj_some (d := item) rfl]
  exact mapV_insert objVal bk.objects k _

theorem PlainB.versions_nil {bk : Bucket} (h : PlainB bk) (k : Key) : ∀ o, SMap.find bk.objects k = some o → o.versions = [] :=
  fun _ hf => (h.2 _ (SMap.find_some_mem hf)).elim fun _ hd => hd.2.2

theorem bput_plain (bk : Bucket) (k : Key) (item : Ver) (h : PlainB bk) (hi : item.marker = false) : PlainB (bk.put k item) := by
  rw [Bucket.put_eq]
  refine ⟨by rw [Bucket.storeObj_versioning]; exact h.1, Bucket.storeObj_all h.2 fun _ => ⟨item, rfl, hi, ?_⟩⟩
  have : (bk.versioning == VStatus.enabled) = false := by rw [h.1]; rfl
  simp only [Obj.push, this, Bool.false_eq_true, if_false]
  exact Bucket.old_versions_nil (h.versions_nil k)

theorem abs_insert (m : Mem) (b : Bytes) (bk' : Bucket) (n : Nat) :
    abs { buckets := SMap.insert m.buckets b bk', nextVer := n } = SMap.insert (abs m) b (absB bk') := by
  simp only [abs, mapV_insert]

theorem bucket_cases (m : Mem) (h : Plain m) (b : Bytes) :
    (SMap.find m.buckets b = none ∧ SMap.find (abs m) b = none) ∨
    (∃ bk, SMap.find m.buckets b = some bk ∧ SMap.find (abs m) b = some (absB bk) ∧ PlainB bk) := by
  rw [abs_find]
  cases hb : SMap.find m.buckets b with
  | none => exact Or.inl ⟨rfl, rfl⟩
  | some bk => exact Or.inr ⟨bk, rfl, rfl, h _ (SMap.find_some_mem hb)⟩

theorem createBucket_refines (m : Mem) (b : Bytes) (h : Plain m) :
    Plain (m.createBucket b).1 ∧ abs (m.createBucket b).1 = (step (abs m) (.createBucket b)).1 ∧
    ansOf (m.createBucket b).2 = (step (abs m) (.createBucket b)).2 := by
  simp only [Mem.createBucket, step]
  rcases bucket_cases m h b with ⟨hb, ha⟩ | ⟨bk, hb, ha, _⟩
  · rw [hb, ha]
    exact ⟨forall_mem_insert h b ⟨rfl, List.forall_mem_nil _⟩, abs_insert m b _ _, rfl⟩
  · rw [hb, ha]
    exact ⟨h, rfl, rfl⟩

theorem bucketExists_abs (m : Mem) (b : Bytes) : m.bucketExists b = (SMap.find (abs m) b).isSome := by
  rw [abs_find, Option.isSome_map]; rfl

theorem headBucket_refines (m : Mem) (b : Bytes) (h : Plain m) :
    Plain m ∧ abs m = (step (abs m) (.headBucket b)).1 ∧
    (if m.bucketExists b then Ans.ok else Ans.err .NoSuchBucket) = (step (abs m) (.headBucket b)).2 := by
  simp only [step, bucketExists_abs]
  split <;> exact ⟨h, rfl, rfl⟩

theorem deleteBucket_refines (m : Mem) (b : Bytes) (h : Plain m) :
    Plain (m.deleteBucket b).1 ∧ abs (m.deleteBucket b).1 = (step (abs m) (.deleteBucket b)).1 ∧
    ansOf (m.deleteBucket b).2 = (step (abs m) (.deleteBucket b)).2 := by
  simp only [Mem.deleteBucket, step]
  rcases bucket_cases m h b with ⟨hb, ha⟩ | ⟨bk, hb, ha, _⟩
  · rw [hb, ha]; exact ⟨h, rfl, rfl⟩
  · rw [hb, ha]
    simp only [absB, isEmpty_mapV]
    cases bk.objects.isEmpty with
    | false => exact ⟨h, rfl, rfl⟩
    | true => exact ⟨fun q hq => h q (mem_erase hq), mapV_erase absB m.buckets b, rfl⟩

theorem put_refines (md5 : Bytes → Bytes) (md : Meta) (m : Mem) (b : Bytes) (k : Key) (body : Bytes) (h : Plain m) :
    Plain (m.put md5 b k md body).1 ∧ abs (m.put md5 b k md body).1 = (step (abs m) (.put b k body)).1 ∧
    ansOf (m.put md5 b k md body).2 = (step (abs m) (.put b k body)).2 := by
  simp only [Mem.put, Mem.putCommit, step]
  rcases bucket_cases m h b with ⟨hb, ha⟩ | ⟨bk, hb, ha, hp⟩
  · rw [hb, ha]; exact ⟨h, rfl, rfl⟩
  · rw [hb, ha]
    exact ⟨forall_mem_insert h b (bput_plain bk k _ hp rfl), by rw [abs_insert, bput_abs], rfl⟩

theorem get_refines (m : Mem) (b : Bytes) (k : Key) (h : Plain m) :
    Plain m ∧ abs m = (step (abs m) (.get b k)).1 ∧
    (match m.get b k with | .ok v => Ans.object v.body | .err c => .err c | .panic _ => .err .Internal) =
      (step (abs m) (.get b k)).2 := by
  refine ⟨h, (SpecS.step_get_fst _ b k).symm, ?_⟩
  simp only [Mem.get, Mem.current, step]
  rcases bucket_cases m h b with ⟨hb, ha⟩ | ⟨bk, hb, ha, hp⟩
  · rw [hb, ha]
  · rw [hb, ha]
    simp only [absB, find_mapV]
    cases ho : SMap.find bk.objects k with
    | none => rfl
    | some o =>
      obtain ⟨d, hd, hmk, _⟩ := hp.2 (k, o) (SMap.find_some_mem ho)
      simp only at hd
      simp [hd, hmk, objVal]

theorem delete_refines (m : Mem) (b : Bytes) (k : Key) (h : Plain m) :
    Plain (m.delete b k).1 ∧ abs (m.delete b k).1 = (step (abs m) (.delete b k)).1 ∧
    ansOf (m.delete b k).2 = (step (abs m) (.delete b k)).2 := by
  simp only [Mem.delete, step, delKey]
  rcases bucket_cases m h b with ⟨hb, ha⟩ | ⟨bk, hb, ha, hp⟩
  · rw [hb, ha]; exact ⟨h, rfl, rfl⟩
  · rw [hb, ha]
    simp only [Bucket.rm_eq_erase (by rw [hp.1]; nofun) (hp.versions_nil k)]
    exact ⟨forall_mem_insert h b ⟨hp.1, fun p hp' => hp.2 p (mem_erase hp')⟩,
      by rw [abs_insert]; exact congrArg _ (mapV_erase objVal bk.objects k), rfl⟩

theorem deleteFold_refines (b : Bytes) (ks : List Key) (m : Mem) (h : Plain m) :
    Plain (ks.foldl (fun acc k => (Mem.delete acc b k).1) m) ∧
    abs (ks.foldl (fun acc k => (Mem.delete acc b k).1) m) = ks.foldl (fun acc k => delKey acc b k) (abs m) :=
  Fold.foldl_rel (R := fun m st => Plain m ∧ abs m = st) ks m (abs m)
    (fun m st k _ h => by
      obtain ⟨hp, rfl⟩ := h
      rw [← SpecS.step_delete_fst]
      exact ⟨(delete_refines m b k hp).1, (delete_refines m b k hp).2.1⟩) ⟨h, rfl⟩

theorem deleteMulti_refines (m : Mem) (b : Bytes) (ks : List Key) (h : Plain m) :
    Plain (m.deleteMulti b ks).1 ∧ abs (m.deleteMulti b ks).1 = (step (abs m) (.deleteMulti b ks)).1 ∧
    ansOf (m.deleteMulti b ks).2 = (step (abs m) (.deleteMulti b ks)).2 := by
  simp only [Mem.deleteMulti, step]
  rcases bucket_cases m h b with ⟨hb, ha⟩ | ⟨bk, hb, ha, _⟩
  · rw [hb, ha]; exact ⟨h, rfl, rfl⟩
  · rw [hb, ha]
    exact ⟨(deleteFold_refines b ks m h).1, (deleteFold_refines b ks m h).2, rfl⟩

/-- the copy of the handler: destination bucket, then the source, then the upload -/
def modelCopy (md5 : Bytes → Bytes) (md : Meta) (m : Mem) (sb sk db dk : Bytes) : Mem × Ans :=
  if !m.bucketExists db then (m, .err .NoSuchBucket)
  else match m.get sb sk with
    | .err c => (m, .err c)
    | .panic _ => (m, .err .Internal)
    | .ok v => ((m.put md5 db dk md v.body).1, ansOf (m.put md5 db dk md v.body).2)

theorem copy_refines (md5 : Bytes → Bytes) (md : Meta) (m : Mem) (sb sk db dk : Bytes) (h : Plain m) :
    Plain (modelCopy md5 md m sb sk db dk).1 ∧
    abs (modelCopy md5 md m sb sk db dk).1 = (step (abs m) (.copy sb sk db dk)).1 ∧
    (modelCopy md5 md m sb sk db dk).2 = (step (abs m) (.copy sb sk db dk)).2 := by
  have hex := bucketExists_abs m db
  unfold modelCopy
  cases he : m.bucketExists db with
  | false =>
    have hn : SMap.find (abs m) db = none := Option.not_isSome_iff_eq_none.mp (by rw [← hex, he]; simp)
    simp only [step, hn]
    exact ⟨h, rfl, rfl⟩
  | true =>
    rw [SpecS.step_copy (hex ▸ he), ← (get_refines m sb sk h).2.2]
    cases m.get sb sk with
    | ok v => exact put_refines md5 md m db dk v.body h
    | err c | panic s => exact ⟨h, rfl, rfl⟩

/-- the model's step for an operation of C02's alphabet (`md` = the headers of an upload, which
    the reference model does not constrain) -/
def modelStep (md5 : Bytes → Bytes) (md : Meta) (m : Mem) : Op → Mem × Ans
  | .createBucket b => ((m.createBucket b).1, ansOf (m.createBucket b).2)
  | .headBucket b => (m, if m.bucketExists b then .ok else .err .NoSuchBucket)
  | .deleteBucket b => ((m.deleteBucket b).1, ansOf (m.deleteBucket b).2)
  | .listBuckets => (m, .buckets m.listBuckets)
  | .put b k body => ((m.put md5 b k md body).1, ansOf (m.put md5 b k md body).2)
  | .get b k | .head b k =>
    (m, match m.get b k with | .ok v => .object v.body | .err c => .err c | .panic _ => .err .Internal)
  | .delete b k => ((m.delete b k).1, ansOf (m.delete b k).2)
  | .deleteMulti b ks => ((m.deleteMulti b ks).1, ansOf (m.deleteMulti b ks).2)
  | .copy sb sk db dk => modelCopy md5 md m sb sk db dk

/-- **step_refines**: on a never-versioned store every operation of C02's alphabet is answered as the
    reference model answers it on the abstracted store, and the new store abstracts to its new store. -/
theorem step_refines (md5 : Bytes → Bytes) (md : Meta) (m : Mem) (op : Op) (h : Plain m) :
    Plain (modelStep md5 md m op).1 ∧
    abs (modelStep md5 md m op).1 = (step (abs m) op).1 ∧
    (modelStep md5 md m op).2 = (step (abs m) op).2 := by
  cases op with
  | createBucket b => exact createBucket_refines m b h
  | headBucket b => exact headBucket_refines m b h
  | deleteBucket b => exact deleteBucket_refines m b h
  | listBuckets =>
    simp only [modelStep, step, Mem.listBuckets, abs, keys_mapV]
    exact ⟨h, trivial, trivial⟩
  | put b k body => exact put_refines md5 md m b k body h
  | get b k | head b k => exact get_refines m b k h
  | delete b k => exact delete_refines m b k h
  | deleteMulti b ks => exact deleteMulti_refines m b ks h
  | copy sb sk db dk => exact copy_refines md5 md m sb sk db dk h

def modelRun (md5 : Bytes → Bytes) (md : Meta) (m : Mem) (ops : List Op) : Mem × List Ans :=
  ops.foldl (fun (acc : Mem × List Ans) op => let r := modelStep md5 md acc.1 op; (r.1, acc.2 ++ [r.2])) (m, [])

/-- **run_refines** (C02): every finite sequence of bucket and object operations, started in any
    never-versioned store, is answered response by response as the reference model of S3 answers it.
    The laws the property lists (read-your-write, NoSuchKey after delete, BucketNotEmpty, idempotent
    deletes, copy = source, …) are properties of the 40-line reference model (Props/SpecS). -/
theorem run_refines (md5 : Bytes → Bytes) (md : Meta) (m : Mem) (ops : List Op) (h : Plain m) :
    Plain (modelRun md5 md m ops).1 ∧ abs (modelRun md5 md m ops).1 = (run (abs m) ops).1 ∧
    (modelRun md5 md m ops).2 = (run (abs m) ops).2 :=
  Fold.trace_refines (f := modelStep md5 md) (g := step) ops m (fun m op _ h => step_refines md5 md m op h) h

theorem empty_plain : Plain Mem.empty := List.forall_mem_nil _

/-! Non-vacuity: a sequence with overwrite, copy onto itself, delete and bucket removal. -/
example : (modelRun id [] Mem.empty
    [.createBucket [98], .put [98] [107] [1], .put [98] [107] [2], .copy [98] [107] [98] [107], .get [98] [107],
     .deleteBucket [98], .delete [98] [107], .get [98] [107], .deleteBucket [98], .get [98] [107]]).2
    = [.ok, .ok, .ok, .ok, .object [2], .err .BucketNotEmpty, .ok, .err .NoSuchKey, .ok, .err .NoSuchBucket] := by decide +kernel

end GFS.Props.C02R
