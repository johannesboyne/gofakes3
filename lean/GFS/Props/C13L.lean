import GFS.Props.C13
import GFS.Props.ListLoop
/-
  C13, the whole listing: without page limit and markers, ListObjectVersions is the concatenation,
  key by key in stored (ascending) order, of every version and delete marker of every matching key.
-/
namespace GFS.Props.C13L
open GFS.Model GFS.Props.C13 GFS.Props.C03G

def entriesOfKey (p : Prefix) (masked : Bool) (q : Key × Obj) : List VerEntry :=
  match p.match_ q.1 with
  | some (false, _) => q.2.allVersions.map (entryOf q.1 masked)
  | _ => []

def prefixOfKey (p : Prefix) (q : Key × Obj) : Option Bytes :=
  match p.match_ q.1 with
  | some (true, mp) => some mp
  | _ => none

theorem verLoop_unpaginated (p : Prefix) (masked : Bool) (objs : List (Key × Obj)) (cnt : Int) (acc : VersionList) :
    verLoop p masked 0 [] none objs cnt acc =
      .ok { acc with entries := acc.entries ++ objs.flatMap (entriesOfKey p masked),
                     prefixes := addAll acc.prefixes (objs.filterMap (prefixOfKey p)) } := by
  induction objs generalizing cnt acc with
  | nil => rw [List.flatMap_nil, List.append_nil]; rfl
  | cons q rest ih =>
    obtain ⟨k, o⟩ := q
    rw [List.flatMap_cons, List.filterMap_cons]
    unfold verLoop
    cases hm : p.match_ k with
    | none => simp only [entriesOfKey, prefixOfKey, hm, ih, List.nil_append]
    | some r =>
      obtain ⟨cp, mp⟩ := r
      cases cp with
      | true =>
        simp only [entriesOfKey, prefixOfKey, hm, ih, List.nil_append, addAll_cons]
        cases acc.prefixes.contains mp <;> rfl
      | false => simp only [entriesOfKey, prefixOfKey, hm, verLoopInner_unpaginated, ih, List.append_assoc]

/-- **listVersions_exact**: the unpaginated ListObjectVersions answers, not truncated, with exactly
    the versions and delete markers of every key `Match` lists as Contents — key by key in stored
    order, a key's archived versions ascending, then its current one — and each common prefix once. -/
theorem listVersions_exact (m : Mem) (b : Bytes) (bk : Bucket) (hb : SMap.find m.buckets b = some bk) (p : Prefix) :
    m.listVersions b p [] none 0 =
      .ok ⟨bk.objects.flatMap (entriesOfKey p (bk.versioning == .none)),
           addAll [] (bk.objects.filterMap (prefixOfKey p)), false, [], none⟩ := by
  unfold Mem.listVersions
  simp only [hb, List.isEmpty_nil, if_true]
  rw [verLoop_unpaginated]
  simp

/-- per key: the listed entries of a key with a current version contain exactly one IsLatest
    entry, the current version -/
theorem one_latest_per_key (p : Prefix) (masked : Bool) (k : Key) (o : Obj) (d : Ver) (mp : Bytes)
    (hd : o.data = some d) (hm : p.match_ k = some (false, mp)) :
    (entriesOfKey p masked (k, o)).filter (·.isLatest) = [entryOf k masked (d, true)] := by
  simp only [entriesOfKey, hm]
  exact exactly_one_latest k masked o d hd

example : (Mem.listVersions ⟨[([98], ⟨.enabled, [([107], ⟨some ⟨3, true, [], [], []⟩, [⟨1, false, [1], [9], []⟩]⟩)]⟩)], 3⟩
    [98] ⟨false, [], false, 0⟩ [] none 0) =
    .ok ⟨[⟨[107], some 1, false, false, 1, [9]⟩, ⟨[107], some 3, true, true, 0, []⟩], [], false, [], none⟩ := by decide +kernel

end GFS.Props.C13L
