import GFS.Spec.Multipart
import GFS.Lemmas.Assoc
/-
  The specification Spec.Multipart says what the statement of C06 says: a part list is accepted
  exactly when it is ascending and every entry names an uploaded part under the ETag of that part's
  MOST RECENT upload; the object is then the concatenation of those most recent bodies in listed
  order; a re-upload replaces exactly its own part number.  `C06R.specFold` is the specification's
  fold over the list by itself (`accepted_eq`), entry by entry (`specFold_cons`): what Props/C06R
  compares the check loop of the code with.
-/
namespace GFS.Props.C06R
open GFS.Spec.Multipart

def specFold (md5 : Bytes → Bytes) (u : Upload) (listed : List (Int × Bytes)) : Option (List Bytes) :=
  listed.foldr (fun (p : Int × Bytes) acc =>
    match acc, bodyOf u p.1 with
    | some bs, some body =>
      if Bytes.trim1 34 p.2 == Bytes.hexLower (md5 body) then some (body :: bs) else none
    | _, _ => none) (some [])

theorem accepted_eq (md5 : Bytes → Bytes) (u : Upload) (listed : List (Int × Bytes)) :
    accepted md5 u listed = if !ascending (listed.map (·.1)) then none else specFold md5 u listed := rfl

theorem specFold_cons (md5 : Bytes → Bytes) (u : Upload) (e : Int × Bytes) (rest : List (Int × Bytes)) (bs : List Bytes) :
    specFold md5 u (e :: rest) = some bs ↔
      ∃ body bs', bs = body :: bs' ∧ bodyOf u e.1 = some body ∧
        Bytes.trim1 34 e.2 = Bytes.hexLower (md5 body) ∧ specFold md5 u rest = some bs' := by
  unfold specFold
  rw [List.foldr_cons]
  constructor
  · intro h
    split at h
    · rename_i bs' body hr hb
      split at h
      · rename_i he; cases h; exact ⟨body, bs', rfl, hb, beq_iff_eq.mp he, hr⟩
      · cases h
    · cases h
  · rintro ⟨body, bs', rfl, hb, he, hr⟩
    rw [hr, hb]
    exact if_pos (beq_iff_eq.mpr he)

theorem find_setLatest (u : Upload) (n i : Nat) (body : Bytes) :
    ((setLatest u n body).latest.find? (·.1 == i)).map (·.2) =
      if i = n then some body else (u.latest.find? (·.1 == i)).map (·.2) := by
  simp only [setLatest, Assoc.find?_replace]
  split <;> rfl

end GFS.Props.C06R

namespace GFS.Props.SpecM
open GFS.Spec.Multipart GFS.Props.C06R

theorem specFold_eq_some (md5 : Bytes → Bytes) (u : Upload) (listed : List (Int × Bytes)) (bs : List Bytes) :
    specFold md5 u listed = some bs ↔
      listed.map (fun e => (bodyOf u e.1).filter fun body => Bytes.trim1 34 e.2 == Bytes.hexLower (md5 body)) =
        bs.map some := by
  induction listed generalizing bs with
  | nil =>
    show some [] = some bs ↔ [] = bs.map some
    cases bs <;> simp
  | cons e rest ih =>
    rw [specFold_cons]
    cases bs with
    | nil => simp
    | cons body bs' =>
      simp only [List.cons.injEq, ih, and_assoc, exists_and_left, exists_eq_left', List.map_cons,
        Option.filter_eq_some_iff, beq_iff_eq]

theorem specFold_iff (md5 : Bytes → Bytes) (u : Upload) (listed : List (Int × Bytes)) (bs : List Bytes) :
    specFold md5 u listed = some bs ↔
      bs.length = listed.length ∧
      ∀ i (hi : i < listed.length) (hb : i < bs.length),
        bodyOf u (listed[i]).1 = some bs[i] ∧ Bytes.trim1 34 (listed[i]).2 = Bytes.hexLower (md5 bs[i]) := by
  rw [specFold_eq_some, List.ext_getElem_iff]
  simp only [List.length_map, List.getElem_map, Option.filter_eq_some_iff, beq_iff_eq]
  exact and_congr eq_comm Iff.rfl

/-- **accepted_iff**: the clause of C06 in full -/
theorem accepted_iff (md5 : Bytes → Bytes) (u : Upload) (listed : List (Int × Bytes)) (bs : List Bytes) :
    accepted md5 u listed = some bs ↔
      ascending (listed.map (·.1)) = true ∧ bs.length = listed.length ∧
      ∀ i (hi : i < listed.length) (hb : i < bs.length),
        bodyOf u (listed[i]).1 = some bs[i] ∧ Bytes.trim1 34 (listed[i]).2 = Bytes.hexLower (md5 bs[i]) := by
  rw [accepted_eq]
  cases ha : ascending (listed.map (·.1)) with
  | false => simp
  | true => simp only [Bool.not_true, Bool.false_eq_true, if_false, true_and]; exact specFold_iff md5 u listed bs

/-- a part upload records its body as the most recent one of its number and of no other number -/
theorem bodyOf_setLatest (u : Upload) (n : Nat) (body : Bytes) (i : Int) (hi : 1 ≤ i) :
    bodyOf (setLatest u n body) i = if i.toNat = n then some body else bodyOf u i := by
  unfold bodyOf
  have : ¬ i < 1 := by omega
  simp only [this, if_false]
  exact find_setLatest u n i.toNat body

end GFS.Props.SpecM
