import GFS.Model.UploadPart
import GFS.Lemmas.ResLemmas
import GFS.Lemmas.Uploader
/-
  C08 for part uploads: accepted exactly when the digest matches and the length is the declared
  one; a rejected part upload leaves every pending upload (and, trivially, every stored object:
  the handler never touches the backend) exactly as it was.
-/
namespace GFS.Props.C08P
open GFS.Model GFS.Model.Front

theorem partChecks_noPanic (md5 : Bytes → Bytes) (ucfg : UploadCfg) (rq : PartReq) :
    (partChecks md5 ucfg rq).isPanic = false := by
  unfold partChecks
  split
  · rfl
  · refine Res.guard_noPanic ?_
    split
    · rfl
    · repeat apply Res.guard_noPanic
      rfl

theorem uploadPartReq_cases (md5 : Bytes → Bytes) (ucfg : UploadCfg) (u : Upl) (b : Bytes) (k : Key) (id : Nat) (rq : PartReq) :
    (∃ n size u', partChecks md5 ucfg rq = .ok (n, size) ∧
      uploadPartReq md5 ucfg u b k id rq = (u', .ok (md5 rq.body))) ∨
    ∃ c, uploadPartReq md5 ucfg u b k id rq = (u, .err c) := by
  unfold uploadPartReq
  obtain ⟨⟨n, size⟩, hc⟩ | ⟨c, hc⟩ := Res.ok_or_err (partChecks_noPanic md5 ucfg rq) <;> rw [hc]
  · rcases Upl.uploadPart_cases md5 u b k id n size rq.body with ⟨_, _, _, _, _, e⟩ | ⟨_, c, e⟩
    · exact .inl ⟨n, size, _, rfl, e⟩
    · exact .inr ⟨c, e⟩
  · exact .inr ⟨c, rfl⟩

/-- **part_rejected_unchanged**: a part upload answered with an error (bad part number, length or digest,
    unknown upload) leaves every pending upload and its parts as they were -/
theorem part_rejected_unchanged (md5 : Bytes → Bytes) (ucfg : UploadCfg) (u : Upl) (b : Bytes) (k : Key) (id : Nat)
    (rq : PartReq) (c : ErrCode) (h : (uploadPartReq md5 ucfg u b k id rq).2 = .err c) :
    (uploadPartReq md5 ucfg u b k id rq).1 = u := by
  rcases uploadPartReq_cases md5 ucfg u b k id rq with ⟨_, _, _, -, e⟩ | ⟨_, e⟩
  · rw [e] at h; cases h
  · rw [e]

theorem partChecks_eq_ok {md5 : Bytes → Bytes} {ucfg : UploadCfg} {rq : PartReq} {n : Nat} {size : Int} :
    partChecks md5 ucfg rq = .ok (n, size) ↔
      ∃ pn, rq.partNumber = some pn ∧ (0 < pn ∧ pn ≤ MaxUploadPartNumber) ∧
        rq.contentLength.bind parseInt64 = some size ∧ 0 < size ∧
        (ucfg.integrity = true → rq.md5 ≠ .empty ∧ rq.md5 ≠ .malformed) ∧
        digestOk md5 rq.body (expectedOf ucfg rq.md5) = true ∧ (rq.body.length : Int) = size ∧
        n = pn.toNat := by
  unfold partChecks
  cases rq.partNumber with
  | none => simp
  | some pn =>
  cases rq.contentLength.bind parseInt64 with
  | none => simp [Res.ite_err_eq_ok]
  | some sz =>
    simp only [Res.ite_err_eq_ok, Res.ok.injEq, Prod.mk.injEq, Option.some.injEq, exists_eq_left']
    constructor
    · rintro ⟨h1, h2, h3, h4, h5, h6, rfl, rfl⟩
      exact ⟨by omega, rfl, by omega, fun hi => ⟨by simpa [hi] using h3, by simpa [hi] using h4⟩,
        by simpa using h5, by simpa using h6, rfl⟩
    · rintro ⟨h1, rfl, h2, h3, h4, h5, rfl⟩
      refine ⟨by omega, by omega, ?_, ?_, by simpa using h4, by simpa using h5, rfl, rfl⟩
      · cases hi : ucfg.integrity with
        | false => simp
        | true => simpa using (h3 hi).1
      · cases hi : ucfg.integrity with
        | false => simp
        | true => simpa using (h3 hi).2

/-- **part_accepted_checks**: an acknowledged part upload is answered with the MD5 of the bytes received, their
    count is the declared Content-Length, and with integrity checking on a Content-MD5 header, if sent, is
    well-formed and is that MD5 -/
theorem part_accepted_checks (md5 : Bytes → Bytes) (ucfg : UploadCfg) (u : Upl) (b : Bytes) (k : Key) (id : Nat)
    (rq : PartReq) (e : Bytes) (h : (uploadPartReq md5 ucfg u b k id rq).2 = .ok e) :
    e = md5 rq.body ∧
    (ucfg.integrity = true → ∀ d, rq.md5 = .digest d → d = md5 rq.body) ∧
    (ucfg.integrity = true → rq.md5 ≠ .empty ∧ rq.md5 ≠ .malformed) ∧
    ∃ size, rq.contentLength.bind parseInt64 = some size ∧ (rq.body.length : Int) = size := by
  rcases uploadPartReq_cases md5 ucfg u b k id rq with ⟨n, size, _, hc, he⟩ | ⟨_, he⟩
  · rw [he] at h
    cases h
    obtain ⟨pn, -, -, hcl, -, hm, hd, hl, -⟩ := partChecks_eq_ok.mp hc
    exact ⟨rfl, fun hi d hmd => by simpa [expectedOf, hi, hmd, digestOk] using hd, hm, size, hcl, hl⟩
  · rw [he] at h; cases h

/-- conversely: a part upload to a pending upload with a valid number, the right length and (when
    checked) the right digest is acknowledged with the MD5 of its bytes -/
theorem part_good_accepted (md5 : Bytes → Bytes) (ucfg : UploadCfg) (u : Upl) (b : Bytes) (k : Key) (id : Nat)
    (bu : BUps) (m : MPU) (n : Int) (cl body : Bytes) (mh : Md5Hdr)
    (hg : u.get b k id = .ok (bu, m)) (hn : 1 ≤ n ∧ n ≤ 10000)
    (hcl : parseInt64 cl = some (body.length : Int)) (hb : body ≠ [])
    (hm : mh = .absent ∨ mh = .digest (md5 body)) :
    (uploadPartReq md5 ucfg u b k id ⟨some n, some cl, mh, body⟩).2 = .ok (md5 body) := by
  have hpos : 0 < body.length := List.length_pos_iff.mpr hb
  have hchk : partChecks md5 ucfg ⟨some n, some cl, mh, body⟩ = .ok (n.toNat, (body.length : Int)) :=
    partChecks_eq_ok.mpr ⟨n, rfl, by simp only [MaxUploadPartNumber]; omega, hcl, by omega,
      fun _ => by rcases hm with rfl | rfl <;> simp,
      by rcases hm with rfl | rfl <;> cases hi : ucfg.integrity <;> simp [digestOk, expectedOf, hi], rfl, rfl⟩
  have h3 : ¬ (n.toNat > MaxUploadPartNumber) := by simp only [MaxUploadPartNumber]; omega
  simp [uploadPartReq, hchk, Upl.uploadPart, h3, hg]

/-! Non-vacuity: a wrong digest is refused with BadDigest before the upload is even looked up. -/
example : (uploadPartReq (fun _ => [1]) {} Upl.empty [98] [107] 1 ⟨some 1, some [49], .digest [2], [7]⟩).2 = .err .BadDigest := by
  decide +kernel

end GFS.Props.C08P
