import GFS.Props.C02R
import GFS.Model.Front
/-
  C02 at handler level: the gofakes3.go handlers (ensureBucketExists with and without
  auto-created buckets, key-length and bucket-name checks, copy = HEAD + GET + PUT, multi-delete)
  over the backend model refine the reference model, operation by operation and over sequences.
-/
namespace GFS.Props.C02F
open GFS.Model GFS.SMapL GFS.Spec.S3 GFS.Props.C02R

/-- what the reference model sees of a handler's answer -/
def outAns : Out → Ans
  | .ok => .ok
  | .err c => .err c
  | .object body _ _ _ => .object body
  | .stored _ _ => .ok
  | .deleted _ _ => .ok
  | .multiDeleted _ => .ok
  | .copied _ _ => .ok
  | .buckets ns => .buckets ns
  | _ => .err .Internal

/-- the handler an operation of C02's alphabet is routed to (`md` = the request's headers) -/
def frontStep (md5 : Bytes → Bytes) (cfg : Cfg) (md : Meta) (m : Mem) : Op → Mem × Out
  | .createBucket b => Front.createBucket m b
  | .headBucket b => Front.headBucket cfg m b
  | .deleteBucket b => Front.deleteBucket cfg m b false
  | .listBuckets => Front.listBuckets m
  | .put b k body => Front.putObject md5 cfg m b k md body
  | .get b k => Front.getObject cfg m b k none false
  | .head b k => Front.getObject cfg m b k none true
  | .delete b k => Front.deleteObject cfg m b k
  | .deleteMulti b ks => Front.deleteMulti cfg m b (ks.map (fun k => (k, none)))
  | .copy sb sk db dk => Front.copyObject md5 cfg m sb sk db dk md

/-- the reference behaviour of the HTTP layer: with auto-bucket an absent bucket is created
    first; then the reference model's step -/
def specFront (auto : Bool) (s : Store) (op : Op) : Store × Ans :=
  let s' := match bucketOf op with
    | some b => if auto && !(SMap.find s b).isSome then SMap.insert s b [] else s
    | none => s
  step s' op

/-- requests the handlers refuse for reasons the reference model does not know: bucket names
    that break the naming rules, keys above the length limit -/
def WF : Op → Prop
  | .createBucket b => validateBucketName b = true
  | .put _ k _ => k.length ≤ Front.KeySizeLimit
  | .copy _ _ _ dk => dk.length ≤ Front.KeySizeLimit
  | _ => True

theorem ensure_spec (cfg : Cfg) (m : Mem) (b : Bytes) (h : Plain m)
    (hv : cfg.autoBucket = true → validateBucketName b = true) :
    (∃ m', Front.ensureBucket cfg m b = (m', .ok ()) ∧ Plain m' ∧ m'.bucketExists b = true ∧
      abs m' = if cfg.autoBucket && !(SMap.find (abs m) b).isSome then SMap.insert (abs m) b [] else abs m) ∨
    (Front.ensureBucket cfg m b = (m, .err .NoSuchBucket) ∧ SMap.find (abs m) b = none ∧ cfg.autoBucket = false) := by
  unfold Front.ensureBucket
  rcases bucket_cases m h b with ⟨hb, ha⟩ | ⟨bk, hb, ha, _⟩
  · have he : m.bucketExists b = false := by rw [bucketExists_abs, ha]; rfl
    rw [he, if_neg Bool.false_ne_true, ha]
    cases hauto : cfg.autoBucket with
    | false => exact Or.inr ⟨rfl, rfl, rfl⟩
    | true =>
      left
      rw [if_pos rfl, hv hauto]
      simp only [Bool.not_true, Bool.false_eq_true, if_false, Mem.createBucket, hb, Option.isSome_none]
      exact ⟨_, rfl, forall_mem_insert h b ⟨rfl, List.forall_mem_nil _⟩,
        by simp only [Mem.bucketExists, SMap.find_insert_self]; rfl, abs_insert m b _ _⟩
  · have he : m.bucketExists b = true := by rw [bucketExists_abs, ha]; rfl
    rw [he, if_pos rfl, ha]
    exact Or.inl ⟨m, rfl, h, he, by simp⟩

theorem outAns_ofRes {α : Type} (r : Res α) (f : α → Out) (hf : ∀ a, outAns (f a) = .ok) :
    outAns (Out.ofRes r f) = ansOf r := by
  cases r with
  | ok a => exact hf a
  | err c | panic s => rfl

theorem deleteMultiVersions_none (m : Mem) (b : Bytes) (ks : List Key) :
    (m.deleteMultiVersions b (ks.map (fun k => (k, none)))).1 = (m.deleteMulti b ks).1 ∧
    ansOf (m.deleteMultiVersions b (ks.map (fun k => (k, none)))).2 = ansOf (m.deleteMulti b ks).2 := by
  unfold Mem.deleteMultiVersions Mem.deleteMulti
  cases SMap.find m.buckets b with
  | none => exact ⟨rfl, rfl⟩
  | some bk =>
    refine ⟨?_, rfl⟩
    rw [List.foldl_map]

theorem withBucket_refines (md5 : Bytes → Bytes) (cfg : Cfg) (m : Mem) (op : Op) (b : Bytes) (f : Mem → Mem × Out)
    (h : Plain m) (hab : cfg.autoBucket = true → ∀ b, bucketOf op = some b → validateBucketName b = true)
    (hb : bucketOf op = some b)
    (hf : ∀ m', m'.bucketExists b = true → ∃ mdX, ((f m').1, outAns (f m').2) = modelStep md5 mdX m' op) :
    Plain (Front.withBucket cfg m b f).1 ∧
    abs (Front.withBucket cfg m b f).1 = (specFront cfg.autoBucket (abs m) op).1 ∧
    outAns (Front.withBucket cfg m b f).2 = (specFront cfg.autoBucket (abs m) op).2 := by
  simp only [specFront, hb]
  unfold Front.withBucket
  rcases ensure_spec cfg m b h (fun ha => hab ha b hb) with ⟨m', hr, hp, hex, habs⟩ | ⟨hr, hnone, hauto⟩
  · obtain ⟨mdX, hmodel⟩ := hf m' hex
    have hs := step_refines md5 mdX m' op hp
    rw [← hmodel] at hs
    rw [hr, ← habs]
    exact hs
  · rw [hr, hauto, Bool.false_and, if_neg Bool.false_ne_true, spec_absent (abs m) op b hb hnone]
    exact ⟨h, rfl, rfl⟩

/-- **front_step_refines**: in every configuration (auto-bucket, versioning support on or off) the
    handler of a well-formed operation answers as `specFront` says, and the new store abstracts to its. -/
theorem front_step_refines (md5 : Bytes → Bytes) (cfg : Cfg) (md : Meta) (m : Mem) (op : Op) (h : Plain m) (hwf : WF op)
    (hab : cfg.autoBucket = true → ∀ b, bucketOf op = some b → validateBucketName b = true) :
    Plain (frontStep md5 cfg md m op).1 ∧
    abs (frontStep md5 cfg md m op).1 = (specFront cfg.autoBucket (abs m) op).1 ∧
    outAns (frontStep md5 cfg md m op).2 = (specFront cfg.autoBucket (abs m) op).2 := by
  cases op with
  | createBucket b =>
    obtain ⟨p1, p2, p3⟩ := createBucket_refines m b h
    have hv : validateBucketName b = true := hwf
    simp only [frontStep, Front.createBucket, hv, Bool.not_true, Bool.false_eq_true, if_false, specFront, bucketOf]
    exact ⟨p1, p2, (outAns_ofRes _ _ fun _ => rfl).trans p3⟩
  | listBuckets =>
    simp only [frontStep, Front.listBuckets, specFront, bucketOf, step, Mem.listBuckets, abs, keys_mapV, outAns]
    exact ⟨h, trivial, trivial⟩
  | headBucket b =>
    refine withBucket_refines md5 cfg m _ b _ h hab rfl fun m' hex => ⟨[], ?_⟩
    simp [modelStep, hex, outAns]
  | put b k body =>
    refine withBucket_refines md5 cfg m _ b _ h hab rfl fun m' hex => ⟨md, ?_⟩
    have hk : ¬ k.length > Front.KeySizeLimit := Nat.not_lt.mpr hwf
    simp only [hk, if_false, modelStep]
    cases m'.put md5 b k md body with
    | mk m2 r => cases r <;> simp [outAns, ansOf]
  | get b k | head b k =>
    refine withBucket_refines md5 cfg m _ b _ h hab rfl fun m' hex => ⟨[], ?_⟩
    simp only [modelStep]
    cases m'.get b k <;> simp [outAns]
  | deleteBucket b | delete b k =>
    refine withBucket_refines md5 cfg m _ b _ h hab rfl fun m' hex => ⟨[], ?_⟩
    exact Prod.ext rfl (outAns_ofRes _ _ fun _ => rfl)
  | deleteMulti b ks =>
    refine withBucket_refines md5 cfg m _ b _ h hab rfl fun m' hex => ⟨[], ?_⟩
    obtain ⟨e1, e2⟩ := deleteMultiVersions_none m' b ks
    have hmm : ((ks.map fun k => (k, (none : Option Nat))).map (·.1)) = ks := by
      simp [List.map_map, Function.comp_def]
    split
    · exact Prod.ext e1 ((outAns_ofRes _ _ fun _ => rfl).trans e2)
    · rw [hmm]
      exact Prod.ext rfl (outAns_ofRes _ _ fun _ => rfl)
  | copy sb sk db dk =>
    refine withBucket_refines md5 cfg m _ db _ h hab rfl fun m' hex => ?_
    have hk : ¬ dk.length > Front.KeySizeLimit := Nat.not_lt.mpr hwf
    simp only [hk, if_false, modelStep, modelCopy, hex, Bool.not_true, Bool.false_eq_true, Mem.head_eq_get]
    cases m'.get sb sk with
    | err c | panic s => exact ⟨[], by simp [outAns]⟩
    | ok v =>
      refine ⟨mergeMeta md (v.md.filter (fun p => !(p.1 == Front.aclKey))), ?_⟩
      simp only
      cases m'.put md5 db dk (mergeMeta md (v.md.filter (fun p => !(p.1 == Front.aclKey)))) v.body with
      | mk m2 r => cases r <;> simp [outAns, ansOf]

def frontRun (md5 : Bytes → Bytes) (cfg : Cfg) (md : Meta) (m : Mem) (ops : List Op) : Mem × List Ans :=
  ops.foldl (fun (acc : Mem × List Ans) op => let r := frontStep md5 cfg md acc.1 op; (r.1, acc.2 ++ [outAns r.2])) (m, [])

def specFrontRun (auto : Bool) (s : Store) (ops : List Op) : Store × List Ans :=
  ops.foldl (fun (acc : Store × List Ans) op => let r := specFront auto acc.1 op; (r.1, acc.2 ++ [r.2])) (s, [])

/-- **front_run_refines** (C02 at handler level): every finite sequence of well-formed requests, served
    by the gofakes3.go handlers over the backend model in any configuration from a never-versioned
    store, is answered response for response as the reference behaviour answers it. -/
theorem front_run_refines (md5 : Bytes → Bytes) (cfg : Cfg) (md : Meta) (m : Mem) (ops : List Op) (h : Plain m)
    (hwf : ∀ op ∈ ops, WF op)
    (hab : cfg.autoBucket = true → ∀ op ∈ ops, ∀ b, bucketOf op = some b → validateBucketName b = true) :
    Plain (frontRun md5 cfg md m ops).1 ∧ abs (frontRun md5 cfg md m ops).1 = (specFrontRun cfg.autoBucket (abs m) ops).1 ∧
    (frontRun md5 cfg md m ops).2 = (specFrontRun cfg.autoBucket (abs m) ops).2 :=
  Fold.trace_refines (f := fun m op => ((frontStep md5 cfg md m op).1, outAns (frontStep md5 cfg md m op).2))
    (g := specFront cfg.autoBucket) ops m
    (fun m op ho h => front_step_refines md5 cfg md m op h (hwf op ho) (fun ha => hab ha op ho)) h

/-! Non-vacuity: with auto-bucket, a put into an absent bucket creates it; without, it is refused. -/
example : (frontRun id { autoBucket := true } [] Mem.empty [.put [98, 107, 116] [107] [1], .get [98, 107, 116] [107], .listBuckets]).2
    = [.ok, .object [1], .buckets [[98, 107, 116]]] := by decide +kernel
example : (frontRun id {} [] Mem.empty [.put [98, 107, 116] [107] [1], .get [98, 107, 116] [107], .listBuckets]).2
    = [.err .NoSuchBucket, .err .NoSuchBucket, .buckets []] := by decide +kernel

end GFS.Props.C02F
