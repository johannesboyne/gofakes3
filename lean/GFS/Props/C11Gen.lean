import GFS.Props.C11
import GFS.Generated.RangeGo
/-
  The tie for C11: the body of `Range()` re-translated from /repo on every run is, on every input,
  the hand-written model (the two unfold to the same program), and so satisfies the model's
  specification.  A change to range.go changes `GFS.Generated.rangeGo`, and these proofs are
  re-checked against it.
-/
namespace GFS.Props.C11Gen
open GFS.Model GFS.Spec GFS.Generated GFS.Props.C11

theorem rangeGo_eq_range (size : Int) (o : RangeReq) : rangeGo size o = range size o := by
  obtain ⟨s, e, f⟩ := o
  cases f
  · by_cases he : e = -1 <;> simp [rangeGo, range, RangeNoEnd, he, or_assoc]
  · simp [rangeGo, range, or_assoc]

/-- **rangeGo_eq_clip**: the code as it is in /repo now computes the clipped interval. -/
theorem rangeGo_eq_clip (size : Int) (o : RangeReq)
    (hs : 0 ≤ size ∧ size ≤ I64.max) (hp : ParserReq o) :
    rangeGo size o = clipSL size o := by
  rw [rangeGo_eq_range, range_eq_clip size o hs hp]

set_option linter.unusedVariables false in  -- the hypotheses are not needed: `rangeGo_eq_range`
/-- **rangeGo_eq_model**: hence the translated code and the hand-written model (which the
    driver executes and the other theorems mention) agree on every parser-producible request. -/
theorem rangeGo_eq_model (size : Int) (o : RangeReq)
    (hs : 0 ≤ size ∧ size ≤ I64.max) (hp : ParserReq o) :
    rangeGo size o = range size o :=
  rangeGo_eq_range size o

end GFS.Props.C11Gen
