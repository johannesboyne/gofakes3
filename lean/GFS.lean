import GFS.Props.C11
import GFS.Props.C11Gen
import GFS.Props.C17
import GFS.Props.C12
import GFS.Props.C12F
import GFS.Props.C02
import GFS.Props.C02R
import GFS.Props.C02F
import GFS.Props.C01
import GFS.Props.C03
import GFS.Props.C03M
import GFS.Props.C03G
import GFS.Props.C04
import GFS.Props.C04W
import GFS.Props.C04D
import GFS.Props.C04M
import GFS.Props.C04Gen
import GFS.Props.C05
import GFS.Props.C05H
import GFS.Props.C05R
import GFS.Props.C13
import GFS.Props.C13L
import GFS.Props.C13W
import GFS.Props.C13S
import GFS.Props.C13I
import GFS.Props.C06
import GFS.Props.C06F
import GFS.Props.C06G
import GFS.Props.C14
import GFS.Props.C14U
import GFS.Props.C14W
import GFS.Props.C14P
import GFS.Props.C14I
import GFS.Props.C16
import GFS.Props.C08
import GFS.Props.C08P
import GFS.Props.C10
import GFS.Props.FsInv
import GFS.Props.C09
import GFS.Props.C09F
import GFS.Props.C09M
import GFS.Props.C15
import GFS.Props.C15D
import GFS.Model.FsDisk
import GFS.Props.C07
import GFS.Props.C07S
import GFS.Props.C06R
import GFS.Props.C07Gen
import GFS.Props.C13R
import GFS.Props.C14R
import GFS.Props.C03R
import GFS.Props.FsS1
import GFS.Props.C16M
import GFS.Props.C08Gen
import GFS.Props.C14L
import GFS.Props.C14X
import GFS.Props.C02Gen
import GFS.Props.BoltM
import GFS.Props.C05M
import GFS.Props.C01C
import GFS.Props.C04N
import GFS.Props.CPfx
import GFS.Props.SpecV
import GFS.Props.SpecM
import GFS.Props.SpecS
import GFS.Props.ListLoop
import GFS.Props.BackendGen
import GFS.Props.BoltL
import GFS.Props.C01B
import GFS.Props.C10B
import GFS.Props.C12T
import GFS.Props.FsL
import GFS.Props.FsD
